/-
  Frrs.Sim.Sim (namespace `Sim`) — the C01/C02 simulation in miniature.
  Stream = list of commits (marks, parent marks, M/D changes). The filter drops/renames changes,
  canonicalises parents through the alias map, prunes change-less non-merge commits by aliasing them
  to their first parent. Importer: tree of a commit = first parent's tree + changes.
-/
import Frrs.Sim.Tree
namespace Sim
open Tr

structure Commit where
  mark : Nat
  parents : List Nat
  changes : List Change

inductive Cmd where
  | commit (c : Commit)
  | alias (m t : Nat)

/-- importer state: which commit object a mark denotes, and per commit object its tree and parents -/
structure IState where
  obj : Nat → Option Nat
  tree : Nat → Tree
  parents : Nat → List Nat

def IState.empty : IState := ⟨fun _ => none, fun _ _ => none, fun _ => []⟩

def applyCs (T : Tree) (cs : List Change) : Tree := cs.foldl applyC T

def emptyTree : Tree := fun _ => none

def istep (I : IState) : Cmd → IState
  | .commit c =>
    let ps := c.parents.filterMap I.obj
    let base : Tree := match ps with
      | [] => emptyTree
      | p :: _ => I.tree p
    { obj := fun m => if m = c.mark then some c.mark else I.obj m
      tree := fun m => if m = c.mark then applyCs base c.changes else I.tree m
      parents := fun m => if m = c.mark then ps else I.parents m }
  | .alias m t => { I with obj := fun x => if x = m then I.obj t else I.obj x }

def irun (cs : List Cmd) : IState := cs.foldl istep IState.empty

/-- `J` is `I` except at mark `k`. -/
def IState.AgreeOff (k : Nat) (I J : IState) : Prop :=
  ∀ m, m ≠ k → J.obj m = I.obj m ∧ J.tree m = I.tree m ∧ J.parents m = I.parents m

/-- the tree a commit with parent objects `ps` starts from: that of its first parent -/
def baseTree (I : IState) : List Nat → Tree
  | [] => emptyTree
  | p :: _ => I.tree p

/-- A commit changes the importer state at its mark only, and there as follows. -/
theorem istep_commit (I : IState) (c : Commit) :
    I.AgreeOff c.mark (istep I (.commit c)) ∧
    (istep I (.commit c)).obj c.mark = some c.mark ∧
    (istep I (.commit c)).tree c.mark
      = applyCs (baseTree I (c.parents.filterMap I.obj)) c.changes ∧
    (istep I (.commit c)).parents c.mark = c.parents.filterMap I.obj :=
  ⟨fun _ hm => ⟨if_neg hm, if_neg hm, if_neg hm⟩, if_pos rfl, if_pos rfl, if_pos rfl⟩

theorem istep_alias (I : IState) (m t : Nat) :
    I.AgreeOff m (istep I (.alias m t)) ∧ (istep I (.alias m t)).obj m = I.obj t :=
  ⟨fun _ hm => ⟨if_neg hm, rfl, rfl⟩, if_pos rfl⟩

/-- parent de-duplication as in `finalize_parent_lines`: keep the first occurrence -/
def dedupAux (seen : List Nat) : List Nat → List Nat
  | [] => []
  | a :: l => if a ∈ seen then dedupAux seen l else a :: dedupAux (a :: seen) l

def dedup (l : List Nat) : List Nat := dedupAux [] l

theorem dedupAux_sub (seen l : List Nat) : ∀ x ∈ dedupAux seen l, x ∈ l := by
  fun_induction dedupAux seen l with
  | case1 => exact fun _ hx => hx
  | case2 seen a l _ ih => exact fun x hx => List.mem_cons_of_mem a (ih x hx)
  | case3 seen a l _ ih =>
    exact List.forall_mem_cons.2 ⟨List.mem_cons_self, fun x hx => List.mem_cons_of_mem a (ih x hx)⟩

/-- what `dedupAux` keeps is new to `seen`, and kept once -/
theorem dedupAux_nodup (seen l : List Nat) :
    (dedupAux seen l).Nodup ∧ ∀ x ∈ dedupAux seen l, x ∉ seen := by
  fun_induction dedupAux seen l with
  | case1 => exact ⟨List.nodup_nil, nofun⟩
  | case2 seen a l _ ih => exact ih
  | case3 seen a l h ih =>
    obtain ⟨h1, h2⟩ := ih
    exact ⟨List.nodup_cons.2 ⟨fun ha => h2 a ha List.mem_cons_self, h1⟩,
      List.forall_mem_cons.2 ⟨h, fun x hx hs => h2 x hx (List.mem_cons_of_mem a hs)⟩⟩

theorem dedup_sub (l : List Nat) : ∀ x ∈ dedup l, x ∈ l := dedupAux_sub [] l

theorem dedup_cons (a : Nat) (l : List Nat) : ∃ r, dedup (a :: l) = a :: r := by
  simp [dedup, dedupAux]

theorem dedup_nil_iff (l : List Nat) : dedup l = [] ↔ l = [] := by
  cases l with
  | nil => simp [dedup, dedupAux]
  | cons a l => obtain ⟨r, h⟩ := dedup_cons a l; simp [h]

theorem filterMap_self {α : Type} {f : α → Option α} {l : List α} (h : ∀ x ∈ l, f x = some x) :
    l.filterMap f = l := by
  induction l with
  | nil => rfl
  | cons a l ih =>
    rw [List.filterMap_cons, h a List.mem_cons_self, ih fun x hx => h x (List.mem_cons_of_mem _ hx)]

variable (keep : Path → Bool) (ren : Path → Path)

/-- filter state: alias map (pruned mark ↦ canonical surviving mark) -/
structure FState where
  alias : Nat → Option Nat

def canon (F : FState) (m : Nat) : Nat := (F.alias m).getD m

def fstep (F : FState) (c : Commit) : FState × Cmd :=
  let fch := c.changes.filterMap (filterC keep ren)
  let cps := dedup (c.parents.map (canon F))
  match cps with
  | [] => (F, .commit { c with parents := [], changes := fch })
  | p :: rest =>
    if fch.isEmpty && rest.isEmpty then
      ({ alias := fun m => if m = c.mark then some p else F.alias m }, .alias c.mark p)
    else (F, .commit { c with parents := p :: rest, changes := fch })

def frun : FState → List Commit → List Cmd
  | _, [] => []
  | F, c :: cs => let (F', o) := fstep keep ren F c; o :: frun F' cs

theorem canon_alias (F : FState) (k t m : Nat) :
    canon ⟨fun x => if x = k then some t else F.alias x⟩ m = if m = k then t else canon F m := by
  unfold canon
  dsimp only
  split <;> rfl

/-- The filter prunes a commit with no surviving change and a single canonical parent `p` by
    aliasing it to `p`; every other commit it passes on with its canonical parents. -/
theorem fstep_cases (F : FState) (c : Commit) :
    (∃ p, dedup (c.parents.map (canon F)) = [p] ∧ c.changes.filterMap (filterC keep ren) = [] ∧
      fstep keep ren F c =
        (⟨fun m => if m = c.mark then some p else F.alias m⟩, .alias c.mark p)) ∨
    fstep keep ren F c = (F, .commit { c with parents := dedup (c.parents.map (canon F))
                                              changes := c.changes.filterMap (filterC keep ren) }) := by
  unfold fstep
  cases dedup (c.parents.map (canon F)) with
  | nil => exact Or.inr rfl
  | cons p rest =>
    cases hprune : (c.changes.filterMap (filterC keep ren)).isEmpty && rest.isEmpty
    · exact Or.inr (by simp only [hprune]; rfl)
    · obtain ⟨h1, h2⟩ := Bool.and_eq_true_iff.1 hprune
      rw [List.isEmpty_iff] at h1 h2
      exact Or.inl ⟨p, by rw [h2], h1, by simp only [hprune]; rfl⟩

/-- rename is injective on kept paths (whole history) -/
def Inj : Prop := ∀ a b, keep a = true → keep b = true → ren a = ren b → a = b

theorem fold_commute (hinj : Inj keep ren) (cs : List Change) {T' T : Tree} (h : Img keep ren T' T) :
    Img keep ren (applyCs T' (cs.filterMap (filterC keep ren))) (applyCs T cs) := by
  induction cs generalizing T' T with
  | nil => exact h
  | cons c cs ih =>
    have hstep := ih <| step_commute keep ren T' T c (fun _ => True) (fun _ _ _ => trivial)
      trivial (fun a b _ _ ha hb hr => hinj a b ha hb hr) h
    rw [List.filterMap_cons]
    cases hf : filterC keep ren c <;> rw [hf] at hstep <;> exact hstep

theorem img_empty : Img keep ren emptyTree emptyTree := by
  intro q e; simp [emptyTree]

/-- lockstep invariant between the source import, the filter state and the target import -/
structure Inv (seen : Nat → Prop) (I : IState) (F : FState) (I' : IState) : Prop where
  src_obj : ∀ m, seen m → I.obj m = some m
  unseen : ∀ m, ¬ seen m → I.obj m = none ∧ I'.obj m = none ∧ F.alias m = none
  canon_seen : ∀ m, seen m → seen (canon F m) ∧ canon F (canon F m) = canon F m
  tgt_obj : ∀ m, seen m → I'.obj m = some (canon F m)
  tree_img : ∀ m, seen m → Img keep ren (I'.tree (canon F m)) (I.tree m)
  parents_img : ∀ m, seen m → canon F m = m →
      I'.parents m = dedup ((I.parents m).map (canon F))
  par_seen : ∀ m, seen m → ∀ x ∈ I.parents m, seen x

theorem inv_init : Inv keep ren (fun _ => False) IState.empty ⟨fun _ => none⟩ IState.empty :=
  ⟨nofun, fun _ _ => ⟨rfl, rfl, rfl⟩, nofun, nofun, nofun, nofun, nofun⟩

variable {keep ren}

/-- Extending the invariant by a fresh mark `k`: when the three states change at `k` only, the
    fields need checking at `k` only. A seen mark, its canonical mark and its parents are seen,
    hence not `k`, and what the invariant says of them mentions nothing else. -/
theorem Inv.extend {seen : Nat → Prop} {I J : IState} {F G : FState} {I' J' : IState}
    (h : Inv keep ren seen I F I') {k : Nat} (hk : ¬ seen k)
    (hI : I.AgreeOff k J) (hF : ∀ m, m ≠ k → G.alias m = F.alias m) (hI' : I'.AgreeOff k J')
    (src_obj : J.obj k = some k)
    (canon_seen : (canon G k = k ∨ seen (canon G k)) ∧ canon G (canon G k) = canon G k)
    (tgt_obj : J'.obj k = some (canon G k))
    (tree_img : Img keep ren (J'.tree (canon G k)) (J.tree k))
    (parents_img : canon G k = k → J'.parents k = dedup ((J.parents k).map (canon G)))
    (par_seen : ∀ x ∈ J.parents k, seen x) :
    Inv keep ren (fun m => m = k ∨ seen m) J G J' := by
  have hne : ∀ m, seen m → m ≠ k := fun m hm e => hk (e ▸ hm)
  have hcan : ∀ m, seen m → canon G m = canon F m := fun m hm => by
    unfold canon; rw [hF m (hne m hm)]
  have hcs := h.canon_seen
  constructor
  · rintro m (rfl | hm)
    · exact src_obj
    · rw [(hI m (hne m hm)).1]; exact h.src_obj m hm
  · intro m hm
    have hmk : m ≠ k := fun e => hm (Or.inl e)
    rw [(hI m hmk).1, (hI' m hmk).1, hF m hmk]
    exact h.unseen m fun e => hm (Or.inr e)
  · rintro m (rfl | hm)
    · exact canon_seen
    · rw [hcan m hm, hcan _ (hcs m hm).1]
      exact ⟨Or.inr (hcs m hm).1, (hcs m hm).2⟩
  · rintro m (rfl | hm)
    · exact tgt_obj
    · rw [hcan m hm, (hI' m (hne m hm)).1]; exact h.tgt_obj m hm
  · rintro m (rfl | hm)
    · exact tree_img
    · rw [hcan m hm, (hI' _ (hne _ (hcs m hm).1)).2.1, (hI m (hne m hm)).2.1]
      exact h.tree_img m hm
  · rintro m (rfl | hm) hcm
    · exact parents_img hcm
    · rw [hcan m hm] at hcm
      rw [(hI' m (hne m hm)).2.2, (hI m (hne m hm)).2.2, h.parents_img m hm hcm]
      congr 1
      exact List.map_congr_left fun x hx => (hcan x (h.par_seen m hm x hx)).symm
  · rintro m (rfl | hm) x hx
    · exact Or.inr (par_seen x hx)
    · rw [(hI m (hne m hm)).2.2] at hx; exact Or.inr (h.par_seen m hm x hx)

variable (keep ren)

theorem inv_step (hinj : Inj keep ren) (seen : Nat → Prop) (I : IState) (F : FState) (I' : IState)
    (h : Inv keep ren seen I F I') (c : Commit)
    (hfresh : ¬ seen c.mark) (hpar : ∀ p ∈ c.parents, seen p) :
    Inv keep ren (fun m => m = c.mark ∨ seen m) (istep I (.commit c))
      (fstep keep ren F c).1 (istep I' (fstep keep ren F c).2) := by
  have hck : canon F c.mark = c.mark := by rw [canon, (h.unseen _ hfresh).2.2]; rfl
  -- the parents denote themselves in the source, their canonical marks do in the target
  have hsrc : c.parents.filterMap I.obj = c.parents :=
    filterMap_self fun p hp => h.src_obj p (hpar p hp)
  have hcps : ∀ x ∈ dedup (c.parents.map (canon F)), seen x ∧ canon F x = x := by
    intro x hx
    obtain ⟨p, hp, rfl⟩ := List.mem_map.1 (dedup_sub _ x hx)
    exact h.canon_seen p (hpar p hp)
  have htgt : (dedup (c.parents.map (canon F))).filterMap I'.obj = dedup (c.parents.map (canon F)) :=
    filterMap_self fun x hx => by rw [h.tgt_obj x (hcps x hx).1, (hcps x hx).2]
  -- so the filtered commit starts from the image of the tree the commit starts from
  have hbase : Img keep ren (baseTree I' (dedup (c.parents.map (canon F)))) (baseTree I c.parents) := by
    cases hps : c.parents with
    | nil => exact img_empty keep ren
    | cons p1 ps =>
      obtain ⟨rest, hr⟩ := dedup_cons (canon F p1) (ps.map (canon F))
      rw [List.map_cons, hr]
      exact h.tree_img p1 (hpar p1 (hps ▸ List.mem_cons_self))
  have himg := fold_commute keep ren hinj c.changes hbase
  obtain ⟨hJ, hJo, hJt, hJp⟩ := istep_commit I c
  rw [hsrc] at hJt hJp
  have hJs : ∀ x ∈ (istep I (.commit c)).parents c.mark, seen x := by rw [hJp]; exact hpar
  rcases fstep_cases keep ren F c with ⟨t, ht, hfch, hf⟩ | hf <;> rw [hf] <;> dsimp only
  · -- pruned: `c.mark` becomes an alias of its only canonical parent `t`
    obtain ⟨hst, hct⟩ := hcps t (by rw [ht]; exact List.mem_singleton.2 rfl)
    have htk : t ≠ c.mark := fun e => hfresh (e ▸ hst)
    obtain ⟨hK, hKo⟩ := istep_alias I' c.mark t
    rw [ht, hfch] at himg
    refine h.extend hfresh hJ (fun _ hm => if_neg hm) hK hJo ?canon_seen ?tgt_obj ?tree_img ?parents_img hJs
      <;> rw [canon_alias, if_pos rfl]
    case canon_seen => rw [canon_alias, if_neg htk]; exact ⟨Or.inr hst, hct⟩
    case tgt_obj => rw [hKo, h.tgt_obj t hst, hct]
    case tree_img => rw [hJt]; exact himg
    case parents_img => exact fun e => absurd e htk
  · -- kept, with its canonical parents
    obtain ⟨hK, hKo, hKt, hKp⟩ := istep_commit I' { c with
      parents := dedup (c.parents.map (canon F)), changes := c.changes.filterMap (filterC keep ren) }
    rw [htgt] at hKt hKp
    refine h.extend hfresh hJ (fun _ _ => rfl) hK hJo ⟨Or.inl hck, by rw [hck, hck]⟩
      (by rw [hck]; exact hKo) ?tree_img ?parents_img hJs
    case tree_img => rw [hck, hJt, hKt]; exact himg
    case parents_img => intro _; rw [hKp, hJp]

/-- exporter shape: marks are fresh, parents were exported earlier -/
def WF : (Nat → Prop) → List Commit → Prop
  | _, [] => True
  | seen, c :: cs => ¬ seen c.mark ∧ (∀ p ∈ c.parents, seen p) ∧ WF (fun m => m = c.mark ∨ seen m) cs

theorem inv_run (hinj : Inj keep ren) : ∀ (cs : List Commit) (seen : Nat → Prop) (I : IState)
    (F : FState) (I' : IState), Inv keep ren seen I F I' → WF seen cs →
    ∃ (seen' : Nat → Prop) (F' : FState),
      Inv keep ren seen' ((cs.map Cmd.commit).foldl istep I) F' ((frun keep ren F cs).foldl istep I') ∧
      (∀ c ∈ cs, seen' c.mark) ∧ (∀ m, seen m → seen' m) := by
  intro cs
  induction cs with
  | nil => intro seen I F I' h _; exact ⟨seen, F, h, nofun, fun _ hm => hm⟩
  | cons c cs ih =>
    intro seen I F I' h hwf
    obtain ⟨hfresh, hpar, hrest⟩ := hwf
    have hstep := inv_step keep ren hinj seen I F I' h c hfresh hpar
    obtain ⟨seen', F', hinv, hall, hmono⟩ := ih _ _ _ _ hstep hrest
    exact ⟨seen', F', hinv, List.forall_mem_cons.2 ⟨hmono _ (Or.inl rfl), hall⟩, fun m hm => hmono m (Or.inr hm)⟩

/-- Miniature C01 + C02: for every well-shaped stream and every rename that is injective on kept
    paths, every original commit has an image in the filtered import whose tree is the selected,
    renamed original tree; a kept commit's parents are the de-duplicated images of its parents. -/
theorem mini_c01_c02 (hinj : Inj keep ren) (cs : List Commit) (hwf : WF (fun _ => False) cs) :
    let I := irun (cs.map Cmd.commit)
    let I' := irun (frun keep ren ⟨fun _ => none⟩ cs)
    ∃ F' : FState, ∀ c ∈ cs,
      I'.obj c.mark = some (canon F' c.mark) ∧
      Img keep ren (I'.tree (canon F' c.mark)) (I.tree c.mark) ∧
      (canon F' c.mark = c.mark → I'.parents c.mark = dedup ((I.parents c.mark).map (canon F'))) := by
  obtain ⟨seen', F', hinv, hall, _⟩ :=
    inv_run keep ren hinj cs _ _ _ _ (inv_init keep ren) hwf
  refine ⟨F', fun c hc => ?_⟩
  have hs := hall c hc
  exact ⟨hinv.tgt_obj _ hs, hinv.tree_img _ hs, hinv.parents_img _ hs⟩

end Sim
