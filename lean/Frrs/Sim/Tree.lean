/-
  Frrs.Sim.Tree (namespace `Tr`) — selecting and renaming commutes with one fast-import file change, for trees as
  point-updated maps from paths to entries: the key lemma of C01/C06.
-/
namespace Tr

abbrev Path := List UInt8

structure Entry where
  mode : Nat
  blob : Nat
deriving DecidableEq

abbrev Tree := Path → Option Entry

inductive Change where
  | M (p : Path) (e : Entry)
  | D (p : Path)

def applyC (T : Tree) : Change → Tree
  | .M p e => fun q => if q = p then some e else T q
  | .D p => fun q => if q = p then none else T q

variable (keep : Path → Bool) (ren : Path → Path)

def filterC : Change → Option Change
  | .M p e => if keep p then some (.M (ren p) e) else none
  | .D p => if keep p then some (.D (ren p)) else none

def applyO (T : Tree) : Option Change → Tree
  | none => T
  | some c => applyC T c

/-- `T'` is the selected, renamed image of `T`. -/
def Img (T' T : Tree) : Prop :=
  ∀ q' e, T' q' = some e ↔ ∃ q, keep q = true ∧ ren q = q' ∧ T q = some e

def pathOf : Change → Path
  | .M p _ => p
  | .D p => p

def InjOn (S : Path → Prop) : Prop :=
  ∀ a b, S a → S b → keep a = true → keep b = true → ren a = ren b → a = b

variable {keep ren}

/-- An update of `T` at `p` is not seen at `q'` when no kept path renamed to `q'` is `p`. -/
theorem Img.frame {T' T : Tree} (h : Img keep ren T' T) {p q' : Path}
    (hp : ∀ q, keep q = true → ren q = q' → q ≠ p) (v : Option Entry) (e : Entry) :
    T' q' = some e ↔ ∃ q, keep q = true ∧ ren q = q' ∧ (if q = p then v else T q) = some e := by
  rw [h q' e]
  refine exists_congr fun q => and_congr_right fun hk => and_congr_right fun hr => ?_
  rw [if_neg (hp q hk hr)]

/-- Setting a kept path `p` to `v` in `T` is setting `ren p` to `v` in the image. -/
theorem Img.update {T' T : Tree} (h : Img keep ren T' T) {S : Path → Prop}
    (hS : ∀ q e, T q = some e → S q) (hinj : InjOn keep ren S) {p : Path} (hp : S p)
    (hk : keep p = true) (v : Option Entry) :
    Img keep ren (fun q' => if q' = ren p then v else T' q') (fun q => if q = p then v else T q) := by
  intro q' e
  show (if q' = ren p then v else T' q') = some e ↔
    ∃ q, keep q = true ∧ ren q = q' ∧ (if q = p then v else T q) = some e
  by_cases hq : q' = ren p
  · subst hq
    rw [if_pos rfl]
    constructor
    · intro hv; exact ⟨p, hk, rfl, by rw [if_pos rfl]; exact hv⟩
    · rintro ⟨q, hkq, hr, hv⟩
      by_cases hqp : q = p
      · rwa [if_pos hqp] at hv
      · rw [if_neg hqp] at hv
        exact absurd (hinj q p (hS q e hv) hp hkq hk hr) hqp
  · rw [if_neg hq]
    exact h.frame (fun q _ hr hqp => hq (by rw [← hr, hqp])) v e

variable (keep ren)

theorem step_commute (T' T : Tree) (c : Change) (S : Path → Prop)
    (hS : ∀ q e, T q = some e → S q) (hc : S (pathOf c))
    (hinj : InjOn keep ren S) (h : Img keep ren T' T) :
    Img keep ren (applyO T' (filterC keep ren c)) (applyC T c) := by
  -- `M p e` sets `p` to `some e`, `D p` sets it to `none`; a change to an unkept path is dropped
  have unkept {p : Path} (hk : keep p = false) (v : Option Entry) :
      Img keep ren T' (fun q => if q = p then v else T q) :=
    fun _ e => h.frame (fun q hkq _ hqp => by rw [hqp, hk] at hkq; cases hkq) v e
  cases c with
  | M p e =>
    cases hk : keep p <;> simp only [filterC, hk, if_true, Bool.false_eq_true, if_false]
    · exact unkept hk (some e)
    · exact h.update hS hinj hc hk (some e)
  | D p =>
    cases hk : keep p <;> simp only [filterC, hk, if_true, Bool.false_eq_true, if_false]
    · exact unkept hk none
    · exact h.update hS hinj hc hk none

end Tr
