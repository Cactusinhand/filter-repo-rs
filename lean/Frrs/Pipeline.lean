/-
  Frrs.Pipeline — vocabulary of the extracted orchestration tables (Frrs/Extracted.lean is
  regenerated from /repo on every run by harness/src/extract.rs) and the predicates the
  orchestration properties are stated with. Everything is enumerated constructors, so the
  instance theorems evaluate in the kernel (`decide +kernel`).
-/
namespace Frrs.Pipe

inductive SrcFile where
  | lib | main | stream | finalize | migrate | backup | analysis | detect | sanity | gitutil | gitConfig
  | commit | tag | pipes | opts | message | filechange | pathutil | limits | error | verifHooks
  deriving DecidableEq, Repr

/-- integer constants of the source that the model mirrors -/
inductive ConstName where
  | maxDetectedValues | maxScanBlobBytes | maxDataBlockSize | stripShaOnDiskThreshold | shaHexLen | minShortHashLen
  deriving DecidableEq, Repr

inductive Guard where
  | notDryRun | dryRun | optReset | optBackup | cleanupStandard | cleanupAggressive
  | optSensitive | notSensitive | optWriteReport | modeFilter | modeAnalyze | other
  deriving DecidableEq, Repr

inductive GitSub where
  | fastExport | fastImport | updateRef | reset | reflog | gc | symbolicRef | revParse | catFile
  | revList | forEachRef | config | remote | fetch | bundle | status | diff | diffIndex | stash
  | worktree | countObjects | log | lsFiles | showRef | version | lsTree | help | diffTree
  | init | add | commitCmd | branch | checkout | tagCmd | other
  deriving DecidableEq, Repr

/-- the literal arguments that decide what a command does -/
inductive ArgTag where
  | hard | rm | create | get | listFlag | stdinFlag | headLit | dyn | deleteFlag | verify | quietFlag
  | batch | lit | showArg | expireArg
  deriving DecidableEq, Repr

/-- how the command's stderr is set up: `dflt` = inherited, `quiet` = `Stdio::null()`/`Stdio::inherit()` (possibly chosen by an
    `if`), `piped`, `wrapped` = the command is handed to another function of the same file that sets the pipes up (audited by
    hand), `dyn` = any other expression (a helper call, a variable) -/
inductive StderrMode where
  | dflt | quiet | piped | wrapped | dyn
  deriving DecidableEq, Repr

structure GitCmd where
  file : SrcFile
  line : Nat
  sub : GitSub
  tags : List ArgTag
  stdinPiped : Bool
  stdoutPiped : Bool
  stderr : StderrMode := .dflt
  viaOutput : Bool := false    -- run with `.output()`, which drains stdout and stderr
  usesThread : Bool := false   -- the enclosing function spawns a thread
  stderrDrained : Bool := false -- the enclosing function hands the child's stderr to a thread that reads it to the end
  guards : List Guard
  deriving DecidableEq, Repr

inductive Child where
  | fe | fi | cmd          -- `cmd` = a git command run with .status()/.output() whose failure returns Err
  deriving DecidableEq, Repr

inductive Callee where
  | validateOptions | preflight | createBackup | fetchAllRefs | migrateOrigin | streamRun
  | finalize | removeOrigin | runRepoCleanup | buildFastImport | buildFastExport | flushTagResets
  | detectRun | analysisRun
  deriving DecidableEq, Repr

inductive OutFile where
  | refMap | commitMap | filtered | original | report | reportJson | windowsPathReport | alreadyRan | other
  deriving DecidableEq, Repr

inductive Event where
  | git (c : GitCmd)
  | statusCheck (which : Child)                 -- `if !status.success() { return Err(..) }` after `wait()`
  | call (f : Callee) (guards : List Guard)
  | fileCreate (f : OutFile) (guards : List Guard)
  deriving DecidableEq, Repr

/-! ### what a git command touches -/

/-- does the command change refs, HEAD, the index, the work tree, configuration, remotes or the
    object store? (hand-audited classification of the subcommands the code base uses) -/
def GitCmd.mutates (c : GitCmd) : Bool :=
  match c.sub with
  | .fastImport | .updateRef | .reset | .gc | .fetch => true
  | .reflog => !c.tags.contains .showArg          -- `reflog show …` reads; `reflog expire`/`delete` write
  | .symbolicRef => c.tags.count .dyn + c.tags.count .lit ≥ 1 && !c.tags.contains .quietFlag  -- `symbolic-ref HEAD <target>` writes; `symbolic-ref -q HEAD` reads
  | .remote => c.tags.contains .rm
  | .config => !(c.tags.contains .get || c.tags.contains .listFlag)
  | .bundle => c.tags.contains .create           -- writes the bundle file (no ref/object of the repository)
  | .stash | .worktree => !c.tags.contains .listFlag
  | .init | .add | .commitCmd | .branch | .checkout | .tagCmd => true
  | .other => true                                -- fail closed
  | _ => false

/-- the commands that change refs/HEAD/index/objects of the repository (a bundle file does not) -/
def GitCmd.mutatesRepo (c : GitCmd) : Bool := c.mutates && c.sub != .bundle

def Event.mutatesRepo : Event → Bool
  | .git c => c.mutatesRepo
  | .call .removeOrigin _ => true
  | .call .runRepoCleanup _ => true
  | .call .buildFastImport _ => true
  | _ => false

def Event.guards : Event → List Guard
  | .git c => c.guards
  | .call _ g => g
  | .fileCreate _ g => g
  | .statusCheck _ => []

/-! ### predicates -/

/-- both child statuses are checked before position `i` -/
def checkedBefore (evs : List Event) (i : Nat) : Bool :=
  (evs.take i).contains (.statusCheck .fe) && (evs.take i).contains (.statusCheck .fi)

def enumFrom {α} : Nat → List α → List (Nat × α)
  | _, [] => []
  | n, a :: r => (n, a) :: enumFrom (n + 1) r

/-- **C10**: every repository-mutating step of finalize() comes after both status checks -/
def ChecksDominate (evs : List Event) : Bool :=
  (enumFrom 0 evs).all fun (i, e) => !e.mutatesRepo || checkedBefore evs i

/-- is the event protected against running under --dry-run: an enclosing `if !opts.dry_run`, or a
    callee that returns at once under dry_run -/
def Event.dryGuarded (early : List Callee) (e : Event) : Bool :=
  e.guards.contains .notDryRun || (match e with | .call f _ => early.contains f | _ => false)

/-- **C11**: every mutating step is guarded against --dry-run -/
def AllGuardedByNotDryRun (early : List Callee) (evs : List Event) : Bool :=
  evs.all fun e => !(e.mutatesRepo || (match e with | .git c => c.mutates | _ => false)) || e.dryGuarded early

/-- **C14**: every `symbolic-ref HEAD <target>` comes before `reset --hard` -/
def HeadBeforeReset (evs : List Event) : Bool :=
  let idx := enumFrom 0 evs
  let resets := idx.filterMap fun (i, e) => match e with
    | .git c => if c.sub == .reset && c.tags.contains .hard then some i else none
    | _ => none
  let heads := idx.filterMap fun (i, e) => match e with
    | .git c => if c.sub == .symbolicRef && c.mutates then some i else none
    | _ => none
  !resets.isEmpty && !heads.isEmpty && heads.all fun h => resets.all fun r => h < r

/-- position of the first event satisfying `p` -/
def firstIdx (evs : List Event) (p : Event → Bool) : Option Nat :=
  ((enumFrom 0 evs).find? fun (_, e) => p e).map (·.1)

/-- **C13/C12**: `a` is called, and before any of the calls in `bs` -/
def CalledBefore (evs : List Event) (a : Callee) (bs : List Callee) : Bool :=
  match firstIdx evs (fun e => match e with | .call f _ => f == a | _ => false) with
  | none => false
  | some ia => bs.all fun b =>
      match firstIdx evs (fun e => match e with | .call f _ => f == b | _ => false) with
      | none => false
      | some ib => ia < ib

theorem mem_enumFrom_take {α} {l : List α} {n k i : Nat} {e : α} (h : (i, e) ∈ enumFrom n (l.take k)) :
    (i, e) ∈ enumFrom n l ∧ i < n + k := by
  induction l generalizing n k with
  | nil => simp [enumFrom] at h
  | cons a l ih =>
    cases k with
    | zero => simp [enumFrom] at h
    | succ k =>
      simp only [List.take_succ_cons, enumFrom, List.mem_cons] at h ⊢
      rcases h with h | h
      · cases h; exact ⟨Or.inl rfl, by omega⟩
      · obtain ⟨h1, h2⟩ := ih h
        exact ⟨Or.inr h1, by omega⟩

/-- generic lift: if the checks dominate, then in an execution that fails at either status check
    no repository-mutating step has been executed (the prefix executed is the prefix before it) -/
theorem dominated_prefix_pure (evs : List Event) (h : ChecksDominate evs = true) (k : Nat)
    (hk : checkedBefore evs k = false) :
    ∀ i e, (i, e) ∈ enumFrom 0 (evs.take k) → e.mutatesRepo = false := by
  intro i e hmem
  obtain ⟨hin, hlt⟩ := mem_enumFrom_take hmem
  have hall := List.all_eq_true.1 h (i, e) hin
  simp only [Bool.or_eq_true, Bool.not_eq_true'] at hall
  refine hall.resolve_right fun hchk => ?_
  -- checked before position i, and i < k: then checked before k
  have hsub := List.take_subset_take_left evs (show i ≤ k by omega)
  simp only [checkedBefore, Bool.and_eq_true, List.contains_iff_mem, ← Bool.not_eq_true] at hchk hk
  exact hk ⟨hsub hchk.1, hsub hchk.2⟩

/-! ### dry run -/

/-- the events that are executed when `opts.dry_run = dry` (guards other than the dry-run ones are
    taken as possibly true) -/
def execUnder (early : List Callee) (dry : Bool) (evs : List Event) : List Event :=
  evs.filter fun e => !(dry && e.dryGuarded early) && !(!dry && e.guards.contains .dryRun)

/-- under `--dry-run` no executed event mutates the repository, once every mutating event is guarded -/
theorem guarded_pure (early : List Callee) (evs : List Event) (h : AllGuardedByNotDryRun early evs = true) :
    ∀ e ∈ execUnder early true evs, e.mutatesRepo = false := by
  intro e he
  simp only [execUnder, List.mem_filter, Bool.true_and, Bool.not_true, Bool.false_and, Bool.not_false,
    Bool.and_true, Bool.not_eq_true'] at he
  have := List.all_eq_true.1 h e he.1
  simp only [Bool.or_eq_true, Bool.not_eq_true'] at this
  rcases this with h1 | h1
  · simp only [Bool.or_eq_false_iff] at h1; exact h1.1
  · rw [he.2] at h1; cases h1

/-! ### audited tables (hand-audited once; the extracted tables must equal them) -/

/-- every `if … opts.dry_run …` of the crate: backup (early return), finalize (update-ref block,
    HEAD block, reset, cleanup), migrate (three early returns), opts (cleanup default), stream
    (importer spawn). None is inside the filtering path of the main loop. -/
def auditedDryRunReads : List (SrcFile × Nat) :=
  [(.backup, 1), (.finalize, 4), (.migrate, 3), (.opts, 1), (.stream, 1)]

/-- every iteration over a HashMap/HashSet (bindings typed as such, results of functions returning one —
    `get_all_refs`, `get_replace_refs` —, and struct fields of such a type), audited site by site:
    * analysis.rs ×5 — report tables of `--analyze` (top-N is order-insensitive: C19.topN_spec);
    * finalize.rs ×2 — `keys().filter(..).collect()` followed by `sort()` and `next()`: the least matching
      name (`minName`, order-insensitive: `minName_perm`); everything else is `contains_key`;
    * migrate.rs ×1 — builds one `update-ref --stdin` transaction whose create/delete targets are pairwise
      distinct: a set, applied atomically;
    * sanity.rs ×6 — conflict lists of the pre-flight messages (accept/refuse does not depend on the order).
    None in stream.rs, commit.rs, tag.rs, filechange.rs, message.rs, pathutil.rs, pipes.rs, limits.rs. -/
def auditedHashIter : List (SrcFile × Nat) := [(.analysis, 5), (.finalize, 2), (.migrate, 1), (.sanity, 6)]

/-- the modules that produce the filtered stream, the maps and the ref updates -/
def filterPath : List SrcFile := [.stream, .commit, .tag, .filechange, .message, .pathutil, .pipes, .limits, .opts, .lib, .gitConfig]

/-- clock reads: analysis progress, backup file name, sanity (already-ran age, timeouts), stream
    (temp-file name, report metadata) -/
def auditedClockReads : List (SrcFile × Nat) := [(.analysis, 2), (.backup, 1), (.sanity, 7), (.stream, 2)]

/-- children with both stdin and stdout piped, and whether the enclosing function writes from a
    helper thread: detect.rs ×2 (threaded), the importer (chain + lock-step get-mark), the
    cat-file --batch-check of the size tracker (lock-step) -/
def bothPiped (cs : List GitCmd) : List (SrcFile × GitSub × Bool) :=
  (cs.filter fun c => c.stdinPiped && c.stdoutPiped).map fun c => (c.file, c.sub, c.usesThread)

def auditedBothPiped : List (SrcFile × GitSub × Bool) :=
  [(.detect, .catFile, true), (.detect, .catFile, true), (.pipes, .fastImport, false), (.stream, .catFile, false)]

/-- `break` statements inside functions that read a child's piped stdout, audited: detect.rs
    scan_blob_candidates ×1 (`read_line == 0`: EOF), finalize.rs finalize ×2 (EOF of the filtered stream file; end of
    a digit run), stream.rs prefetch_oversize ×1 (EOF). None leaves a reader loop while the child may still write
    (the shape of finding F7). -/
def auditedReaderBreaks : List (SrcFile × Nat) := [(.detect, 1), (.finalize, 2), (.stream, 1)]

/-- **C17**: no child can block on a stderr pipe nobody reads: stderr is inherited, null, piped and drained by `.output()`,
    or piped and read to the end by a thread of its own while stdout is consumed; the audited exceptions are children whose
    piped stderr is never read and that write at most one error message before they die -/
def stderrNeverBlocks (audited : List (SrcFile × GitSub)) (wrappedIn : List SrcFile) (cs : List GitCmd) : Bool :=
  cs.all fun c => match c.stderr with
    | .dflt | .quiet => true
    | .piped => c.viaOutput || c.stderrDrained || audited.contains (c.file, c.sub)
    | .wrapped => wrappedIn.contains c.file
    | .dyn => false

/-- piped stderr that is neither drained by `.output()` nor by a thread: detect.rs `cat-file --batch[-check]` ×2 (never read;
    the ids it is asked for come from `rev-list`, a missing object is reported on stdout, and on a damaged object cat-file
    writes one message and dies). stream.rs `cat-file --batch-all-objects --batch-check` used to be listed here with the
    remark "writes to stderr only when it dies" — false: it writes one line per damaged loose object and goes on, and with
    more than a pipe buffer of them the run hung (finding N18, repaired: the stderr is now read by a thread, which the
    extractor reports as `stderrDrained`). sanity.rs hands its commands to `execute_with_timeout`, which pipes stdout and
    stderr, polls for the exit and reads both afterwards: a child writing more than a pipe buffer is killed after the
    timeout and the pre-flight fails with "Command timed out" — bounded, and only reachable on repositories the pre-flight
    refuses anyway (observation, see DESIGN.md) -/
def auditedPipedStderr : List (SrcFile × GitSub) := [(.detect, .catFile)]
def auditedWrapped : List SrcFile := [.sanity]

def readOnlyIn (f : SrcFile) (cs : List GitCmd) : Bool :=
  (cs.filter fun c => c.file == f).all fun c => !c.mutates

/-- **C19/C20**: the dispatcher: everything `run` calls besides the analysis and the secret scan is confined to filtering mode
    (a `Mode::Filter` match arm or an `if opts.mode == Mode::Filter`), and the analysis itself to `Mode::Analyze` -/
def ModesSeparated (evs : List Event) : Bool :=
  evs.all fun e => match e with
    | .call .detectRun _ => true
    | .call .analysisRun g => g.contains .modeAnalyze
    | .call _ g => g.contains .modeFilter
    | .git c => c.guards.contains .modeFilter
    | .fileCreate _ g => g.contains .modeFilter
    | .statusCheck _ => true

/-- the command lines of the exporter and the importer as audited (pipes.rs): `-C <dir> [-c core.quotepath=false] fast-export
    <refs> --show-original-ids --signed-tags=strip --tag-of-filtered-object=rewrite --fake-missing-tagger
    --reference-excluded-parents --use-done-feature [--date-order] [--no-data] [--reencode=yes] [--mark-tags]` and
    `-C <dir> -c core.ignorecase=false fast-import --force --quiet [--date-format=raw-permissive] [--export-marks=…]`;
    bracketed arguments are conditional. In particular `-c core.ignorecase=false`, `--signed-tags=strip`,
    `--tag-of-filtered-object=rewrite`, `--reference-excluded-parents`, `--use-done-feature` and `--force` are unconditional:
    the lossless-round-trip flags C08 depends on. -/
def auditedPipeArgs : List (GitSub × Nat × Bool) := [
  (.fastExport, 563017056725247521, false),
  (.fastExport, 0, false),
  (.fastExport, 563052241097350273, true),
  (.fastExport, 1095181065749840465, true),
  (.fastExport, 8899676618760483276, false),
  (.fastExport, 0, false),
  (.fastExport, 2401071089810171193, false),
  (.fastExport, 415698966522135484, false),
  (.fastExport, 1840488085719189176, false),
  (.fastExport, 7224606453764782508, false),
  (.fastExport, 3488403198777759109, false),
  (.fastExport, 7229820994539515742, false),
  (.fastExport, 6744727413496977418, true),
  (.fastExport, 17853181588088743459, true),
  (.fastExport, 6214456026475610782, true),
  (.fastExport, 7844197791862974000, true),
  (.fastImport, 563017056725247521, false),
  (.fastImport, 0, false),
  (.fastImport, 563052241097350273, false),
  (.fastImport, 399270763116178444, false),
  (.fastImport, 6093001213137532907, false),
  (.fastImport, 13269889027536395738, false),
  (.fastImport, 12331210239215360541, false),
  (.fastImport, 2332082143619196690, true),
  (.fastImport, 0, true)
]

def constOf (cs : List (ConstName × Nat)) (n : ConstName) : Option Nat := (cs.find? fun c => c.1 == n).map (·.2)

/-- the built-in secret patterns of detect.rs as audited when the end-to-end planting generators were written (one
    generator per family in `checks/e2e.py plant_token`): FNV-1a of "<regex source>|<capture group>", in table order.
    A changed, added, removed or reordered pattern breaks the obligation; the end-to-end runs then look for a token of a
    documented format that is no longer reported. -/
def auditedSecretPatterns : List Nat := [
  4986998226137515080,
  13919480215996457158,
  18080066808229098039,
  9613408370301108388,
  830624176327722292,
  18297287483570198719,
  4886129230641824628,
  8930687383391996024,
  595110611361172028,
  18096724888534395372,
  12578635400859347564,
  286047724810780863,
  1446773243095898216,
  17307136446825716801,
  638092010117383962,
  7938893994978395964,
  13816288086295335306,
  4122907995695552015,
  16688398480988190546,
  7810469003545509730,
  18241546068217879832,
  1980029332361275866
]

/-! ### the module call graph: what can a mode reach? -/

def reachStep (edges : List (SrcFile × SrcFile)) (s : List SrcFile) : List SrcFile :=
  edges.foldl (fun acc (e : SrcFile × SrcFile) => if acc.contains e.1 && !acc.contains e.2 then e.2 :: acc else acc) s

def reach (edges : List (SrcFile × SrcFile)) : Nat → List SrcFile → List SrcFile
  | 0, s => s
  | n + 1, s => reach edges n (reachStep edges s)

/-- the modules whose functions `f` may call, transitively (21 source files ⇒ 21 rounds suffice; closedness is checked, not assumed) -/
def reachable (edges : List (SrcFile × SrcFile)) (f : SrcFile) : List SrcFile := reach edges 21 [f]

def closedUnder (edges : List (SrcFile × SrcFile)) (r : List SrcFile) : Bool :=
  edges.all fun e => !r.contains e.1 || r.contains e.2

/-- **C19/C20**: everything reachable from module `f` runs only non-mutating git commands and has exactly the
    listed filesystem-write sites -/
def readOnlyClosure (edges : List (SrcFile × SrcFile)) (cmds : List GitCmd) (fsw : List (SrcFile × Nat))
    (f : SrcFile) (allowedWrites : List (SrcFile × Nat)) : Bool :=
  let r := reachable edges f
  r.contains f && closedUnder edges r &&
  (cmds.filter fun c => r.contains c.file).all (fun c => !c.mutates) &&
  (fsw.filter fun w => r.contains w.1) == allowedWrites

/-- once a round adds nothing no later round does: the closure is what a few rounds give, whatever number
    `reachable` allows for -/
theorem reach_of_fix (edges : List (SrcFile × SrcFile)) (k : Nat) (s : List SrcFile)
    (h : reachStep edges (reach edges k s) = reach edges k s) (n : Nat) (hn : k ≤ n) :
    reach edges n s = reach edges k s := by
  induction k generalizing s n with
  | zero =>
    clear hn
    induction n with
    | zero => rfl
    | succ n ih => exact (congrArg (reach edges n) (show reachStep edges s = s from h)).trans ih
  | succ k ih =>
    cases n with
    | zero => exact absurd hn (Nat.not_succ_le_zero k)
    | succ m => exact ih (reachStep edges s) h m (Nat.le_of_succ_le_succ hn)

theorem readOnlyClosure_sound {edges cmds fsw f allowed}
    (h : readOnlyClosure edges cmds fsw f allowed = true) :
    (∀ a b, (a, b) ∈ edges → a ∈ reachable edges f → b ∈ reachable edges f) ∧
    (∀ c ∈ cmds, c.file ∈ reachable edges f → c.mutates = false) := by
  simp only [readOnlyClosure, Bool.and_eq_true, closedUnder, List.all_eq_true, List.mem_filter,
    Bool.or_eq_true, Bool.not_eq_true', List.contains_eq_mem, decide_eq_true_eq, decide_eq_false_iff_not] at h
  obtain ⟨⟨⟨_, hc⟩, hm⟩, _⟩ := h
  refine ⟨fun a b hab ha => ?_, fun c hc' hf => ?_⟩
  · rcases hc (a, b) hab with h1 | h1
    · exact absurd ha h1
    · exact h1
  · exact hm c ⟨hc', hf⟩

end Frrs.Pipe
