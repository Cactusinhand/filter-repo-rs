/-
  C16 — Path selectors mean what the documentation says, for every pattern and path.
  `GlobSpec` (Frrs/Proofs/Glob.lean) is the declarative meaning taken from the statement:
  a literal byte matches itself; `?` one non-'/' byte; `*` any run of non-'/' bytes; `**` any
  run including '/'; and `**/` zero or more whole directories (nothing, or a run ending in '/').
-/
import Frrs.Proofs.Glob
import Frrs.Proofs.Bytes
import Frrs.FileChange
import Frrs.Proofs.CliPath
import Frrs.Proofs.Cli
namespace Frrs.C16

/-- **Glob correctness**: the matcher decides exactly the declarative meaning, for every
    pattern and every text. -/
theorem glob_correct (p t : Bytes) : globMatch p t = true ↔ GlobSpec p t :=
  globF_iff t (Nat.lt_succ_self _)

/-- the recursion of `match_from` terminates within `|p| + 1` nested calls: more fuel never
    changes the answer (termination of the Rust recursion, as a theorem about the mirror) -/
theorem glob_fuel_indep (f : Nat) (p t : Bytes) (h : p.length < f) :
    globF f p t = globMatch p t :=
  Bool.eq_iff_iff.2 ((globF_iff t h).trans (glob_correct p t).symm)

/-- `--path x` selects exactly the paths that start with the bytes `x` -/
theorem path_is_prefix (p x : Bytes) : startsWith p x = true ↔ ∃ t, p = x ++ t :=
  startsWith_iff

/-- several selectors select the **union** -/
theorem matches_union (o : PathOpts) (p : Bytes) :
    pathMatches o p = true ↔
      (∃ x ∈ o.paths, ∃ t, p = x ++ t) ∨ (∃ g ∈ o.globs, GlobSpec g p) ∨
      (o.hasRegex = true ∧ o.regexMatch p = true) := by
  simp only [pathMatches, Bool.or_eq_true, List.any_eq_true, Bool.and_eq_true, path_is_prefix,
    glob_correct, or_assoc]

/-- what `should_keep` computes: everything when there is no selector, otherwise
    "matched" xor `--invert-paths` -/
theorem keep_spec (o : PathOpts) (p : Bytes) :
    shouldKeep o [p] = (noSelectors o || (o.invert != pathMatches o p)) := by
  rw [shouldKeep, List.any_cons, List.any_nil, Bool.or_false]
  cases noSelectors o <;> rfl

/-- `--invert-paths` is the **exact complement** -/
theorem keep_complement (o : PathOpts) (p : Bytes) (h : noSelectors o = false) :
    shouldKeep { o with invert := !o.invert } [p] = !shouldKeep o [p] := by
  rw [keep_spec, keep_spec]
  -- neither `noSelectors` nor `pathMatches` reads the `invert` field
  show (noSelectors o || ((!o.invert) != pathMatches o p)) = !(noSelectors o || (o.invert != pathMatches o p))
  rw [h]
  cases o.invert <;> cases pathMatches o p <;> rfl

/-- without selectors nothing is filtered -/
theorem keep_all (o : PathOpts) (ps : List Bytes) (h : noSelectors o = true) :
    shouldKeep o ps = true := by simp [shouldKeep, h]

/-! ### command-line path normalisation -/

def isErr {α ε} : Except ε α → Bool
  | .error _ => true
  | .ok _ => false

theorem isErr_of_not_ok {α ε} {x : Except ε α} (h : ∀ a, x ≠ .ok a) : isErr x = true := by
  cases x with
  | error => rfl
  | ok a => exact absurd rfl (h a)

/-- absolute paths are rejected: leading '/' or leading '\' (which reads as '/') -/
theorem cli_rejects_absolute (ae : Bool) (b : UInt8) (r : Bytes) (h : b = B.slash ∨ b = B.bs) :
    isErr (normalizeCliPath ae (b :: r)) = true :=
  isErr_of_not_ok fun out ho =>
    have hok := ((normalizeCliPath_ok ae (b :: r) out).1 ho).2
    h.elim (fun e => hok.slash (congrArg some e)) (fun e => hok.bs (congrArg some e))

set_option linter.unusedVariables false in
/-- any `.` or `..` segment (after reading '\' as '/') is rejected
    (also for the empty input, whose only segment is `[]`: `hne` is not needed) -/
theorem cli_rejects_dotseg (ae : Bool) (s : Bytes) (hne : s ≠ [])
    (h : ∃ seg ∈ splitOn B.slash (s.map bs2slash), seg = [B.dot] ∨ seg = [B.dot, B.dot]) :
    isErr (normalizeCliPath ae s) = true :=
  isErr_of_not_ok fun out ho => by
    obtain ⟨seg, hs, hd⟩ := h
    have := ((normalizeCliPath_ok ae s out).1 ho).2.dots seg hs
    rcases hd with rfl | rfl <;> cases this

/-- Windows drive paths are rejected -/
theorem cli_rejects_drive (ae : Bool) (a : UInt8) (r : Bytes) (h : isAlpha a = true) :
    isErr (normalizeCliPath ae (a :: B.colon :: r)) = true :=
  isErr_of_not_ok fun out ho => by
    have := ((normalizeCliPath_ok ae _ out).1 ho).2.drive
    rw [driveLetter, h] at this; cases this

/-- an accepted path is the input with every backslash read as '/' — nothing else changes -/
theorem cli_ok_is_map (ae : Bool) (s out : Bytes) (h : normalizeCliPath ae s = .ok out) :
    out = s.map bs2slash :=
  ((normalizeCliPath_ok ae s out).1 h).1

/-- and a relative path without dot segments is accepted -/
theorem cli_accepts (ae : Bool) (s : Bytes) (hne : s ≠ []) (hd : driveLetter s = false)
    (h1 : s.head? ≠ some B.slash) (h2 : s.head? ≠ some B.bs)
    (h3 : ∀ seg ∈ splitOn B.slash (s.map bs2slash), isDotSeg seg = false) :
    normalizeCliPath ae s = .ok (s.map bs2slash) :=
  (normalizeCliPath_ok ae s _).2 ⟨rfl, fun e => absurd e hne, hd, h1, h2, h3⟩

/-! ### non-vacuity -/

example : globMatch b!"src/**/*.md" b!"src/a.md" = true := by decide +kernel
example : globMatch b!"src/**/*.md" b!"src/x/y/a.md" = true := by decide +kernel
example : globMatch b!"**/x" b!"ax" = false := by decide +kernel       -- the `**/` fix
example : globMatch b!"a?c" b!"a/c" = false := by decide +kernel
example : globMatch b!"*.rs" b!"src/main.rs" = false := by decide +kernel
example : GlobSpec b!"*/?" b!"ab/c" :=
  .seg (u := b!"ab") (by decide) (by decide) (.lit (by decide) (by decide) (.one (by decide) .nil))
example : (normalizeCliPath false b!"src\\lib").toOption = some b!"src/lib" := by decide +kernel
example : isErr (normalizeCliPath false b!"a/../b") = true := by decide +kernel
example : shouldKeep { globs := [b!"*.md"], invert := true } [b!"README.md"] = false := by decide +kernel

/-! ### from the command line to the filter (model of `parse_args`, Frrs/Cli.lean) -/

/-- **Every `--path` selector the run is given passed the normaliser** — as typed, or with the `/` that
    `--subdirectory-filter` adds — whatever else is on the command line. -/
theorem selectors_passed_the_normaliser (badRegex argv : List Bytes) (o : Cli.CliOpts)
    (h : Cli.parseArgs badRegex argv = .ok o) :
    ∀ p ∈ o.paths, ∃ v d, normalizeCliPath false v = .ok d ∧ (p = d ∨ p = Cli.withSlash d) := by
  obtain ⟨args, _, s, _, hl, rfl⟩ := Cli.parseArgs_ok h
  obtain ⟨c, hc⟩ := Cli.defaultCleanup_shape s
  rw [hc]
  exact (Cli.loop_kept badRegex args _ s hl).paths (fun _ hp => nomatch hp)

/-- hence no selector that reaches the filter contains a backslash: they were all read as `/` -/
theorem no_backslash_reaches_the_filter (badRegex argv : List Bytes) (o : Cli.CliOpts)
    (h : Cli.parseArgs badRegex argv = .ok o) : ∀ p ∈ o.paths, B.bs ∉ p := by
  intro p hp
  obtain ⟨v, d, hd, hpd⟩ := selectors_passed_the_normaliser badRegex argv o h p hp
  have hd' : B.bs ∉ d := by
    rw [cli_ok_is_map false v d hd, List.mem_map]
    exact fun ⟨b, _, hb⟩ => bs2slash_ne_bs b hb
  rcases hpd with rfl | rfl
  · exact hd'
  · unfold Cli.withSlash
    split
    · exact hd'
    · intro hmem
      rcases List.mem_append.mp hmem with h1 | h1
      · exact hd' h1
      · simp [B.bs, B.slash] at h1

end Frrs.C16
