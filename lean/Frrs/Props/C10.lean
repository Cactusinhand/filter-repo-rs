/-
  C10 — A failed or interrupted rewrite exits non-zero and moves no ref.
  Stream layer: the run reports success only after reading a complete top-level
  `done` line; every error of the reader (short payload, bad or oversized `data` header) aborts.
  The orchestration layer (both child statuses are checked before any ref, HEAD, index or object
  is touched) is proved over the extracted step table further down (`finalize_checks_dominate`).
-/
import Frrs.FileChange
import Frrs.Proofs.Loop
import Frrs.Filter
import Frrs.Extracted
import Frrs.Proofs.Pipes
namespace Frrs.C10
open Pipe

/-- a failed run is never reported as success -/
theorem failed_not_ok (s : FState) : (failed s).ok = false := rfl

/-- success is only reported from a state in which the terminating `done` line was read -/
theorem finish_ok_sawDone (s : FState) (h : (finishRun s).ok = true) : s.sawDone = true := by
  unfold finishRun at h
  cases hs : s.sawDone with
  | true => rfl
  | false => simp [hs, failed] at h

/-- **for every input, every option set and every amount of fuel**: a run that reports success
    ended in a state that had read `done` -/
theorem loop_ok_sawDone (o : FOpts) (f : Nat) (s : FState) (inp : Bytes)
    (h : (loop o f s inp).ok = true) :
    ∃ s', loop o f s inp = finishRun s' ∧ s'.sawDone = true := by
  fun_induction loop o f s inp
  case case3 => cases h
  case case4 ih => exact ih h
  all_goals exact ⟨_, rfl, finish_ok_sawDone _ h⟩

theorem run_ok_sawDone (o : FOpts) (inp : Bytes) (h : (runBytes o inp).ok = true) :
    ∃ s', runBytes o inp = finishRun s' ∧ s'.sawDone = true :=
  loop_ok_sawDone o _ _ inp h

/-- the empty stream (an exporter that died at once) is an error, not a success -/
theorem empty_stream_fails (o : FOpts) : (runBytes o []).ok = false := rfl

/-- a payload cut short aborts the run: `read_exact` past the end fails -/
theorem readExact_short (n : Nat) (inp : Bytes) (h : inp.length < n) : readExact n inp = none := by
  cases hr : readExact n inp with
  | none => rfl
  | some x =>
    obtain ⟨h1, h2⟩ := readExact_eq_some.mp hr
    rw [h1, List.length_append] at h
    omega

/-- and when it succeeds it consumed exactly `n` bytes: whatever the payload contains
    (`done`, `data 5`, `commit x`, NUL …) the next command starts right after it -/
theorem readExact_exact (n : Nat) (inp p rest : Bytes) (h : readExact n inp = some (p, rest)) :
    inp = p ++ rest ∧ p.length = n := readExact_eq_some.mp h

theorem readExact_append (p rest : Bytes) : readExact p.length (p ++ rest) = some (p, rest) :=
  Frrs.readExact_append p rest

/-- a `data` header above the 500 MB limit, or one that is not a number, is rejected -/
theorem data_header_limit (n : Nat) (line : Bytes) (h : parseDataHeader line = some n) :
    n ≤ maxDataBlock := by
  revert h
  fun_cases parseDataHeader line
  case case4 hn => rintro ⟨⟩; exact Nat.le_of_not_gt hn
  all_goals nofun

/-! ### non-vacuity -/

example : (runBytes {} b!"feature done\ndone\n").ok = true := by decide +kernel
example : (runBytes {} b!"feature done\ndone").ok = false := by decide +kernel        -- newline cut off
example : (runBytes {} b!"feature done\nblob\nmark :1\ndata 5\ndone\n").ok = false := by decide +kernel  -- `done` inside a cut payload
example : (runBytes {} b!"feature done\nblob\nmark :1\ndata 5\ndone\ndone\n").ok = true := by decide +kernel
example : parseDataHeader b!"data 600000000\n" = none := by decide +kernel

/-! ### orchestration layer: obligations over the step table extracted from /repo on this run -/
/-- **every ref/HEAD/index/object-mutating step of finalize() comes after both the exporter's and
    the importer's exit status were checked (and a failed check returns an error)** -/
theorem finalize_checks_dominate : ChecksDominate Extracted.finalizeEvents = true := by decide +kernel

/-- hence: in every execution of finalize() that stops at a failed status check, no
    repository-mutating step has run -/
theorem failed_finalize_mutates_nothing (k : Nat) (hk : checkedBefore Extracted.finalizeEvents k = false) :
    ∀ i e, (i, e) ∈ enumFrom 0 (Extracted.finalizeEvents.take k) → e.mutatesRepo = false :=
  dominated_prefix_pure _ finalize_checks_dominate k hk

/-- in lib.rs::run, options are validated and the pre-flight runs before anything else; the
    stream (and with it every rule/id/mailmap file, parsed at the top of stream::run) comes last -/
theorem run_order : CalledBefore Extracted.runEvents .validateOptions [.preflight, .createBackup, .fetchAllRefs, .migrateOrigin, .streamRun] = true := by
  decide +kernel

/-- the data-block limit of the model is the one in limits.rs (extracted on every run) -/
theorem data_block_limit_is_the_codes : Pipe.constOf Extracted.consts .maxDataBlockSize = some maxDataBlock := by decide +kernel

/-- **a corrupted change line is not hidden from the importer**: a line the filter cannot parse as a file change is forwarded
    byte for byte whatever the path options are — never dropped, never rebuilt — so the importer sees the corruption and
    rejects the stream -/
theorem unparseable_line_is_forwarded (o : PathOpts) (line : Bytes) (h : parseFileChangeLine line = none) :
    handleFileChangeLine o line = some line := by
  simp [handleFileChangeLine, h]

/-- **the filtered stream is append-only**: what has been written (to the importer and to fast-export.filtered) at any
    point of a run is a prefix of what the run reports — on success and on failure alike; nothing already sent is taken
    back or rewritten -/
theorem output_never_retracted (o : FOpts) (f : Nat) (s : FState) (inp : Bytes) :
    s.out <+: (loop o f s inp).out := (loop_resExt o f s inp).out

/-- a run that fails reports exactly the bytes it had written when it failed -/
theorem failed_reports_what_was_written (s : FState) : (failed s).out = s.out := rfl

/-- **every export is framed**: whatever the options, the exporter is started with `--use-done-feature`, so a stream that
    ends early is recognisable by the filter and by the importer (model of pipes.rs, Frrs/Pipes.lean) -/
theorem every_export_uses_the_done_feature (c : Pipes.Caps) (o : Cli.CliOpts) (args : List Bytes)
    (h : Pipes.exportCmd c o = some args) (hov : o.feOverride = none) : b!"--use-done-feature" ∈ args :=
  (Pipes.exportCmd_has c o args h hov).1 _ (.inr (by decide))

end Frrs.C10
