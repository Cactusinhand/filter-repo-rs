/-
  C15 — Path quoting round-trips all byte strings; rebuilt change lines keep meaning.
  The helpers live in Frrs/Proofs/Codec.lean and FileChange.lean; here, besides the property theorems, only the guard
  `noCtrl` of the sanitising step. Every theorem is about the model in
  Frrs/PathCodec.lean + Frrs/FileChange.lean, which the function-level correspondence ties to
  pathutil.rs / filechange.rs on every run.
-/
import Frrs.Proofs.FileChange
import Frrs.Extracted
namespace Frrs.C15

/-- "free of control bytes": no byte in 0x00..0x1f and no 0x7f -/
def noCtrl (p : Bytes) : Bool := p.all fun b => !(b ≤ 0x1f || b == 0x7f)

theorem sanitize_noCtrl (p : Bytes) (h : noCtrl p = true) : sanitize p = p := by
  refine (List.map_congr_left fun b hb => ?_).trans (List.map_id' p)
  have := List.all_eq_true.mp h b hb
  rw [Bool.not_eq_true'] at this
  rw [sanitizeByte, this]; rfl

/-- **Round trip, tool side**: for every control-free path, encoding for the import stream and
    decoding again with the tool's own decoder gives the same bytes. -/
theorem decode_encode (p : Bytes) (h : noCtrl p = true) :
    decodeFastExportPath (encodePathForFi p) = p := by
  unfold encodePathForFi
  simp only [sanitize_noCtrl p h]
  cases hq : needsQuote p with
  | true =>
    have l1 : lastIs 0x0a (0x22 :: (enqBody p ++ [0x22])) = false :=
      lastIs_append_singleton 0x0a 0x22 (0x22 :: enqBody p)
    simp [enquote, decodeFastExportPath, l1, dequote_enqBody]
  | false =>
    -- no byte of `p` is one that asks for quoting: not the line feed, not the quote
    have hne : ∀ x ∈ p, ∀ c, needsQuoteByte c = true → x ≠ c :=
      fun x hx c hc e => List.any_eq_false.mp hq x hx (e ▸ hc)
    have l1 : lastIs 0x0a p = false := lastIs_of_all fun x hx => hne x hx _ rfl
    simp only [Bool.false_eq_true, if_false, decodeFastExportPath, l1]
    cases p with
    | nil => rfl
    | cons f rest => simp [show (f == 0x22) = false from decide_eq_false (hne f (.head _) _ rfl)]

/-- **Round trip, importer side**: git's own `unquote_c_style` reads what the tool emits back
    to the (sanitised) path — for *every* byte string, control bytes included. -/
theorem gitRead_encode (p : Bytes) : gitReadPath (encodePathForFi p) = some (sanitize p) := by
  unfold encodePathForFi
  cases hq : needsQuote (sanitize p) with
  | true =>
    have := gitUnq_body (body_enqBody (sanitize p)) []
    simp [hq, enquote, gitReadPath, this]
  | false =>
    simp only [hq, Bool.false_eq_true, if_false, gitReadPath]
    cases hs : sanitize p with
    | nil => rfl
    | cons f rest =>
      rw [hs] at hq
      have hf : (f == 0x22) = false := decide_eq_false fun e => List.any_eq_false.mp hq f (.head _) (e ▸ rfl)
      simp [hf]

theorem gitRead_encode_noCtrl (p : Bytes) (h : noCtrl p = true) :
    gitReadPath (encodePathForFi p) = some p := by
  rw [gitRead_encode, sanitize_noCtrl p h]

/-- the tool's decoder and git's agree on every exporter-form body -/
theorem decoders_agree {q p : Bytes} (h : Body q p) :
    dequote q = p ∧ gitUnq (q ++ [0x22]) = some (p, []) :=
  ⟨dequote_body h, gitUnq_body h []⟩

/-- **M lines**: any exporter rendering `q` of path `p`, any line ending, is re-emitted as the
    same operation with the same mode and object and the renamed path — or dropped exactly when
    the selectors say so. -/
theorem handle_M (o : PathOpts) (mode id q p le : Bytes)
    (hm : ∀ b ∈ mode, b ≠ 0x20) (hi : ∀ b ∈ id, b ≠ 0x20) (hr : ReprOf q p) (hle : LineEnd le) :
    handleFileChangeLine o (b!"M " ++ mode ++ [0x20] ++ id ++ [0x20] ++ q ++ le) =
      if shouldKeep o [p] then
        some (b!"M " ++ mode ++ [0x20] ++ id ++ [0x20] ++
              encodePathForFi (rewritePath o.renames p) ++ [0x0a])
      else none := by
  simp only [handleFileChangeLine, parse_M hm hi hr hle]

theorem handle_D (o : PathOpts) (q p le : Bytes) (hr : ReprOf q p) (hle : LineEnd le) :
    handleFileChangeLine o (b!"D " ++ q ++ le) =
      if shouldKeep o [p] then some (b!"D " ++ encodePathForFi (rewritePath o.renames p) ++ [0x0a])
      else none := by
  simp only [handleFileChangeLine, parse_D hr hle]

theorem handle_C (o : PathOpts) (q1 p1 q2 p2 le : Bytes) (h1 : ReprOf q1 p1) (h2 : ReprOf q2 p2)
    (hle : LineEnd le) :
    handleFileChangeLine o (b!"C " ++ q1 ++ [0x20] ++ q2 ++ le) =
      if shouldKeep o [p1, p2] then
        some (b!"C " ++ encodePathForFi (rewritePath o.renames p1) ++ [0x20] ++
              encodePathForFi (rewritePath o.renames p2) ++ [0x0a])
      else none := by
  simp only [handleFileChangeLine, parse_C h1 h2 hle]

theorem handle_R (o : PathOpts) (q1 p1 q2 p2 le : Bytes) (h1 : ReprOf q1 p1) (h2 : ReprOf q2 p2)
    (hle : LineEnd le) :
    handleFileChangeLine o (b!"R " ++ q1 ++ [0x20] ++ q2 ++ le) =
      if shouldKeep o [p1, p2] then
        some (b!"R " ++ encodePathForFi (rewritePath o.renames p1) ++ [0x20] ++
              encodePathForFi (rewritePath o.renames p2) ++ [0x0a])
      else none := by
  simp only [handleFileChangeLine, parse_R h1 h2 hle]

theorem handle_deleteall (o : PathOpts) (le : Bytes) (hle : LineEnd le) :
    handleFileChangeLine o (b!"deleteall" ++ le) = some (b!"deleteall" ++ le) := by
  have : parseFileChangeLine (b!"deleteall" ++ le) = some .deleteAll := by rcases hle with rfl | rfl | rfl <;> rfl
  simp only [handleFileChangeLine, this]

/-- **No pass-through because of quoting**: an exporter-form line is always parsed, so it never
    takes the verbatim `None => Some(line)` branch. -/
theorem no_passthrough_M (mode id q p le : Bytes)
    (hm : ∀ b ∈ mode, b ≠ 0x20) (hi : ∀ b ∈ id, b ≠ 0x20) (hr : ReprOf q p) (hle : LineEnd le) :
    parseFileChangeLine (b!"M " ++ mode ++ [0x20] ++ id ++ [0x20] ++ q ++ le) ≠ none := by
  rw [parse_M hm hi hr hle]; simp

theorem no_passthrough_D (q p le : Bytes) (hr : ReprOf q p) (hle : LineEnd le) :
    parseFileChangeLine (b!"D " ++ q ++ le) ≠ none := by
  rw [parse_D hr hle]; simp

/-- the importer sees the renamed path: end-to-end statement for an `M` line -/
theorem importer_sees_M (o : PathOpts) (mode id q p le : Bytes)
    (hm : ∀ b ∈ mode, b ≠ 0x20) (hi : ∀ b ∈ id, b ≠ 0x20) (hr : ReprOf q p) (hle : LineEnd le)
    (hk : shouldKeep o [p] = true) :
    ∃ field, handleFileChangeLine o (b!"M " ++ mode ++ [0x20] ++ id ++ [0x20] ++ q ++ le) =
        some (b!"M " ++ mode ++ [0x20] ++ id ++ [0x20] ++ field ++ [0x0a]) ∧
      gitReadPath field = some (sanitize (rewritePath o.renames p)) := by
  refine ⟨encodePathForFi (rewritePath o.renames p), ?_, gitRead_encode _⟩
  rw [handle_M o mode id q p le hm hi hr hle, hk]; rfl

/-! ### non-vacuity: concrete instances meet the hypotheses -/

/-- `a b/"q\é<ff>` : space, quote, backslash, UTF-8, invalid UTF-8 -/
def samplePath : Bytes := [0x61, 0x20, 0x62, 0x2f, 0x22, 0x71, 0x5c, 0xc3, 0xa9, 0xff]

example : noCtrl samplePath = true := by decide
example : decodeFastExportPath (encodePathForFi samplePath) = samplePath := by decide +kernel
example : gitReadPath (encodePathForFi samplePath) = some samplePath := by decide +kernel
example : needsQuote samplePath = true := by decide

/-- a quoted exporter form with every escape kind: `sp\t\"\\\303\251` -/
example : Body (b!"sp\\t\\\"\\\\\\303\\251") [0x73, 0x70, 0x09, 0x22, 0x5c, 0xc3, 0xa9] := by
  refine .plain (by decide) (by decide) (.plain (by decide) (by decide) (.escT (.escDq (.escBs ?_))))
  have h1 := Body.oct (a := 0x33) (b := 0x30) (c := 0x33) (by decide) (by decide) (by decide) (by decide)
    (Body.oct (a := 0x32) (b := 0x35) (c := 0x31) (by decide) (by decide) (by decide) (by decide) Body.nil)
  exact h1

example : ReprOf b!"src/main.rs" b!"src/main.rs" :=
  .plain (by decide) (by decide) (by decide)

example : handleFileChangeLine { paths := [b!"a"], renames := [(b!"a", b!"x y")] }
    b!"M 100644 :1 \"a\\303\\251\"\r\n" = some b!"M 100644 :1 \"x y\\303\\251\"\n" := by decide +kernel

/-- the documented boundary of the claim: an *unquoted* path containing a space is not an
    exporter form (`ReprOf` excludes it) and such a line is passed through verbatim. -/
example : handleFileChangeLine { paths := [b!"zzz"] } b!"M 100644 :1 a b\n"
    = some b!"M 100644 :1 a b\n" := by decide +kernel

/-! ### the importer reads the emitted path as written -/

/-- "the importer sees the same path" also depends on how the importer is started: `git fast-import` is run with
    `-c core.ignorecase=false` unconditionally (and the exporter with `-c core.quotepath=false` where the audited table says
    so), whatever the platform and whatever the target repository's own configuration says — otherwise an importer in a
    repository with `core.ignorecase=true` folds `lib/readme.md` onto `lib/README.md`. The command lines, with which
    arguments are conditional, are extracted from pipes.rs on every run and compared with the audited table. -/
theorem importer_flags_audited : Extracted.pipeArgs = Pipe.auditedPipeArgs := by decide +kernel

end Frrs.C15
