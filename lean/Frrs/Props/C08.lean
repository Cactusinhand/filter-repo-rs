/-
  C08 — A rewrite that changes nothing is hash-preserving.
  Object ids are a function of object content, so it suffices that the importer sees the same
  content. This file: with neutral options every ingredient is the identity *as the importer
  reads it* — paths (any exporter rendering is re-emitted as a field git reads back to the same
  bytes), modes and ids, messages, identity lines, blobs, ref names, and no commit is dropped.
  Their composition over a whole stream is evaluated by the oracle on every generated history
  (stream-neutral) and end to end (every ref resolves to the same object id).
-/
import Frrs.Extracted
import Frrs.Oracle
import Frrs.Props.C15
import Frrs.Props.C02
import Frrs.Props.C04
import Frrs.Props.C06
import Frrs.Props.C03
import Frrs.Proofs.ShortHash
import Frrs.Proofs.Pipes
namespace Frrs.C08

/-- paths: any exporter form of a control-free path comes out as a field the importer reads as
    the same bytes; mode and object id are untouched -/
theorem neutral_M (mode id q p le : Bytes) (hm : ∀ b ∈ mode, b ≠ 0x20) (hi : ∀ b ∈ id, b ≠ 0x20)
    (hr : ReprOf q p) (hle : LineEnd le) (hc : C15.noCtrl p = true) :
    ∃ field, handleFileChangeLine {} (b!"M " ++ mode ++ [0x20] ++ id ++ [0x20] ++ q ++ le) =
        some (b!"M " ++ mode ++ [0x20] ++ id ++ [0x20] ++ field ++ [0x0a]) ∧
      gitReadPath field = some p := by
  obtain ⟨f, h1, h2⟩ := C15.importer_sees_M {} mode id q p le hm hi hr hle rfl
  exact ⟨f, h1, h2.trans (congrArg some (C15.sanitize_noCtrl p hc))⟩

theorem neutral_D (q p le : Bytes) (hr : ReprOf q p) (hle : LineEnd le) (hc : C15.noCtrl p = true) :
    ∃ field, handleFileChangeLine {} (b!"D " ++ q ++ le) = some (b!"D " ++ field ++ [0x0a]) ∧
      gitReadPath field = some p :=
  ⟨encodePathForFi p, C15.handle_D {} q p le hr hle, C15.gitRead_encode_noCtrl p hc⟩

/-- messages, identity lines and blobs are byte-identical -/
theorem neutral_message (m : Bytes) : rewriteMessage {} m = m := rfl
theorem neutral_blob (p : Bytes) : rewriteBlob {} p = p := rfl
theorem neutral_identity (l : Bytes) : rewriteIdentityLine {} l = l := by
  unfold rewriteIdentityLine
  simp only
  split
  · rfl
  · cases startsWith l kwAuthor <;> cases startsWith l kwCommitter <;> exact C04.timestamp_noop l

/-- **a second run in the same repository**: the commit-map the first run left behind turns on the old-id translator
    (message.rs `ShortHashMapper`). If that map sends every id to itself — what a run that changed nothing records — the
    translator gives every message back byte for byte: ids cited in upper or mixed case, abbreviations, ambiguous
    abbreviations and hex words that are no ids all stay as written. (The defect repaired as R5 was exactly a failure of
    this statement: an upper-case cited id came back in lower case and the commit got a new hash.) -/
theorem neutral_message_after_neutral_run (m : ShMap) (h : SelfMapped m) (msg : Bytes) :
    rewriteMessage { shortHash := some m.rewrite } msg = msg := by
  show m.rewrite msg = msg
  exact rewrite_selfMapped m h msg

/-- the hypothesis is what reading such a map produces: a file whose every line is `<id> <id>` (any case) is self-mapped,
    and stays so when the run records further ids mapped to themselves -/
theorem selfMapped_is_reachable (m : ShMap) (h : SelfMapped m) (old new : Bytes) (he : lowerAll new = lowerAll old) :
    SelfMapped (m.update old new) := by
  fun_cases ShMap.update m old new with
  | case1 => exact h
  | case2 => exact List.forall_mem_cons.mpr ⟨fun v hv => Option.some.inj hv ▸ he, h⟩

example : (ShMap.ofFile b!"ABCDEF0123 abcdef0123\n").isSome = true := by decide
example : ((ShMap.ofFile b!"abcdef0123456 abcdef0123456\n").map fun m => m.rewrite b!"see ABCDEF0, abcdef01234567") =
    some b!"see ABCDEF0, abcdef01234567" := by decide +kernel
/-- and a map that does send the id elsewhere rewrites the citation, keeping its length (not vacuous) -/
example : ((ShMap.ofFile b!"abcdef0123456 1111111111111\n").map fun m => m.rewrite b!"see ABCDEF0, abcdef01234567") =
    some b!"see 1111111, abcdef01234567" := by decide +kernel

/-- ref names are unchanged -/
theorem neutral_ref (r : Bytes) : renameRef {} r = none := C03.no_rename r

/-- with pruning disabled no commit is ever dropped -/
theorem neutral_keeps_every_commit (hc : Bool) (fp mk : Option Nat) (pc : Nat) (wm dg nf : Bool) :
    shouldKeepCommit hc fp mk pc wm dg { pruneEmpty := .never, pruneDegenerate := .never, noFf := nf } = true :=
  C02.keep_all_never hc fp mk pc wm dg nf

/-- nothing is stripped -/
theorem neutral_strips_nothing (b : BlobId) : strippedBlob {} b = false := C06.nothing_stripped {} b rfl rfl

/-! ### non-vacuity: a whole stream through the model with neutral options — what changes is only
    the rendering (blob `original-oid` lines and blank separators are dropped, paths re-quoted) -/

example : (runBytes { prune := { pruneEmpty := .never, pruneDegenerate := .never } }
    b!"feature done\nblob\nmark :1\noriginal-oid aa\ndata 2\nhi\nreset refs/heads/main\ncommit refs/heads/main\nmark :2\noriginal-oid bb\nauthor A <a@e> 1 +0000\ncommitter A <a@e> 1 +0000\ndata 2\nm\nM 100644 :1 \"sp ace\"\n\ncommit refs/heads/main\nmark :3\noriginal-oid cc\nauthor A <a@e> 2 +0000\ncommitter A <a@e> 2 +0000\ndata 6\nempty\nfrom :2\n\nreset refs/tags/lw\nfrom :3\n\ndone\n").out
  = b!"feature done\nblob\nmark :1\ndata 2\nhireset refs/heads/main\ncommit refs/heads/main\nmark :2\noriginal-oid bb\nauthor A <a@e> 1 +0000\ncommitter A <a@e> 1 +0000\ndata 2\nm\nM 100644 :1 \"sp ace\"\n\ncommit refs/heads/main\nmark :3\noriginal-oid cc\nauthor A <a@e> 2 +0000\ncommitter A <a@e> 2 +0000\ndata 6\nempty\nfrom :2\n\nreset refs/tags/lw\nfrom :3\ndone\n" := by
  decide +kernel

/-- the exporter and importer are run with the audited, lossless flag set; none of the flags the round trip depends on is
    conditional (extracted from pipes.rs on every run) -/
theorem pipe_flags_audited : Extracted.pipeArgs = Pipe.auditedPipeArgs := C15.importer_flags_audited

/-- **the importer never folds case**: `-c core.ignorecase=false` stands before `fast-import` for every option set; the
    source, the target, their configuration and the platform play no part (model of pipes.rs, Frrs/Pipes.lean) -/
theorem importer_never_folds_case (c : Pipes.Caps) (o : Cli.CliOpts) :
    ∃ rest, Pipes.importCmd c o
      = [b!"git", b!"-C", o.target, b!"-c", b!"core.ignorecase=false", b!"fast-import"] ++ rest :=
  Pipes.importer_never_folds_case c o

/-- with the default `quotepath` the exporter is told not to octal-quote UTF-8 path bytes -/
theorem exporter_keeps_utf8_paths (c : Pipes.Caps) (o : Cli.CliOpts) (args : List Bytes)
    (h : Pipes.exportCmd c o = some args) (hov : o.feOverride = none) (hq : o.quotepath = true) :
    b!"core.quotepath=false" ∈ args := (Pipes.exportCmd_has c o args h hov).2 hq

end Frrs.C08
