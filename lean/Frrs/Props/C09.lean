/-
  C09 — commit-map and ref-map describe the rewrite completely and truthfully.
  This file: how the two files are produced from what the main loop records (one line per recorded
  pair, in stream order; zero id exactly for a dropped commit), and what the loop records at the
  end of every commit (at most one pair, for the commit's own original id, `none` exactly when the
  commit was dropped). That the mapped object *is* the rewritten counterpart is C01/C02/C04.
-/
import Frrs.Filter
import Frrs.Proofs.MapRoundTrip
import Frrs.Proofs.Loop
namespace Frrs.C09

theorem commitMap_nil (f : Nat → Option Bytes) : commitMap f [] = [] := rfl

/-- a dropped commit is written with the all-zero id -/
theorem commitMap_dropped (f : Nat → Option Bytes) (old : Bytes) (rest : List (Bytes × Option Nat)) :
    commitMap f ((old, none) :: rest) = old ++ [0x20] ++ zeroId ++ [B.lf] ++ commitMap f rest := rfl

/-- a kept commit is written with the id its mark has in the importer's marks file -/
theorem commitMap_kept (f : Nat → Option Bytes) (old id : Bytes) (m : Nat)
    (rest : List (Bytes × Option Nat)) (h : f m = some id) :
    commitMap f ((old, some m) :: rest) = old ++ [0x20] ++ id ++ [B.lf] ++ commitMap f rest := by
  simp [commitMap, h]

/-- lines come in the order in which the commits were exported -/
theorem commitMap_append (f : Nat → Option Bytes) (a b : List (Bytes × Option Nat)) :
    commitMap f (a ++ b) = commitMap f a ++ commitMap f b := by
  simp [commitMap]

/-- the zero id is written only for dropped commits: a kept pair never produces it unless the
    marks file itself says so -/
theorem commitMap_kept_not_zero (f : Nat → Option Bytes) (old id : Bytes) (m : Nat)
    (h : f m = some id) (hz : id ≠ zeroId) :
    commitMap f [(old, some m)] ≠ old ++ [0x20] ++ zeroId ++ [B.lf] := by
  rw [commitMap_kept f old id m [] h, commitMap_nil, List.append_nil]
  exact fun e => hz (List.append_cancel_left (List.append_cancel_right e))

theorem refMap_cons (a b : Bytes) (rest : List (Bytes × Bytes)) (h : a ≠ b) :
    refMap ((a, b) :: rest) = a ++ [0x20] ++ b ++ [B.lf] ++ refMap rest := by
  simp [refMap, h]

/-- **ref-map lists only refs whose name changed**: a recorded pair with equal names (what `--tag-rename v:v` produces for
    every tag it matches) writes no line. (Before the repair recorded as N21 such pairs were written as `name name`.) -/
theorem refMap_skips_identity (a : Bytes) (rest : List (Bytes × Bytes)) : refMap ((a, a) :: rest) = refMap rest := by
  simp [refMap]

theorem refMap_only_changed_names (renames : List (Bytes × Bytes)) :
    refMap renames = refMap (renames.filter fun (a, b) => a != b) := by
  simp [refMap, List.filter_filter]

/-- the rename set is a set: inserting a pair twice records it once -/
theorem setInsert_idem (x : Bytes × Bytes) (l : List (Bytes × Bytes)) (h : pairLt x x = false) :
    setInsert x (setInsert x l) = setInsert x l := by
  fun_induction setInsert x l with
  | case1 => simp [setInsert, h]
  | case2 y r h1 => simp [setInsert, h]
  | case3 y r h1 h2 ih => simp [setInsert, h1, h2, ih]
  | case4 y r h1 h2 => simp [setInsert, h1, h2]

/-- a kept commit with a mark and an original id records exactly `(id, some mark)` -/
theorem kept_records (s : FState) (e : CommitEnd) (old : Bytes) (m : Nat)
    (ho : s.commitOid = some old) (hm : s.commitMark = some m) :
    (recordKept s e).pairs = (old, some m) :: s.pairs ∧ (recordKept s e).commitOid = none := by
  simp [recordKept, FState.emit, ho, hm]

theorem aliasDropped_pairs {s : FState} (e : CommitEnd) :
    (aliasDropped s e).pairs = s.pairs ∧ (aliasDropped s e).commitOid = s.commitOid := by
  unfold aliasDropped
  split
  · dsimp only
    split <;> exact ⟨rfl, rfl⟩
  · exact ⟨rfl, rfl⟩

/-- a dropped commit with an original id records exactly `(id, none)` — the zero line -/
theorem dropped_records (s : FState) (e : CommitEnd) (old : Bytes) (ho : s.commitOid = some old) :
    (recordDropped s e).pairs = (old, none) :: s.pairs ∧ (recordDropped s e).commitOid = none := by
  rw [recordDropped, (aliasDropped_pairs e).1, (aliasDropped_pairs e).2]
  simp only [recordZeroPair, ho, and_self]

/-- without an original id nothing is recorded -/
theorem no_oid_no_record (s : FState) (e : CommitEnd) (ho : s.commitOid = none) :
    (recordKept s e).pairs = s.pairs ∧ (recordDropped s e).pairs = s.pairs := by
  constructor
  · cases hm : s.commitMark <;> simp [recordKept, FState.emit, ho, hm]
  · rw [recordDropped, (aliasDropped_pairs e).1]
    simp only [recordZeroPair, ho]

theorem closeCommitState_pairs (s : FState) : (closeCommitState s).pairs = s.pairs := by
  unfold closeCommitState; cases s.commitMark <;> rfl

/-- **what the end of a commit records**: for a commit that carries its original id and a mark,
    exactly one pair — `(id, some mark)` if it is kept, `(id, none)` if it is dropped — in stream
    order (the newest pair is consed onto the reversed list) -/
theorem endCommit_records (o : FOpts) (s : FState) (old : Bytes) (m : Nat)
    (ho : s.commitOid = some old) (hm : s.commitMark = some m) :
    (endCommit o s).pairs =
      (old, if keepDecision o { s with firstParentMark := (commitEndInfo s).firstParent } (commitEndInfo s)
            then some m else none) :: s.pairs := by
  unfold endCommit
  simp only [closeCommitState_pairs]
  split
  · exact (kept_records { s with firstParentMark := (commitEndInfo s).firstParent } _ old m ho hm).1
  · exact (dropped_records { s with firstParentMark := (commitEndInfo s).firstParent } _ old ho).1

/-! ### non-vacuity -/

example : commitMap (fun m => if m == 3 then some b!"aaaa" else none)
    [(b!"1111", some 3), (b!"2222", none)] = b!"1111 aaaa\n2222 0000000000000000000000000000000000000000\n" := by
  decide +kernel

/-- a pruned and a kept commit: the pairs the model records for a two-commit stream -/
example : (runBytes { path := { paths := [b!"keep"] } }
    b!"feature done\ncommit refs/heads/main\nmark :1\noriginal-oid aa\ndata 0\nM 100644 e69de29bb2d1d6434b8b29ae775ad8c2e48c5391 keep\n\ncommit refs/heads/main\nmark :2\noriginal-oid bb\ndata 0\nfrom :1\nM 100644 e69de29bb2d1d6434b8b29ae775ad8c2e48c5391 drop\n\ndone\n").pairs
    = [(b!"aa", some 1), (b!"bb", none)] := by decide +kernel

/-! ### the maps are append-only logs (for every input, option set and fuel) -/

/-- **a recorded pair is never dropped, changed or reordered**: at every point of a run the pairs recorded so far are a
    prefix of the pairs the run reports -/
theorem pairs_never_retracted (o : FOpts) (f : Nat) (s : FState) (inp : Bytes) :
    s.pairs.reverse <+: (loop o f s inp).pairs := (loop_resExt o f s inp).pairs

/-- … hence the commit-map lines of the commits seen so far are a prefix of the final file -/
theorem commitMap_prefix (g : Nat → Option Bytes) {a b : List (Bytes × Option Nat)} (h : a <+: b) :
    commitMap g a <+: commitMap g b := by
  obtain ⟨t, rfl⟩ := h
  rw [commitMap_append]
  exact List.prefix_append _ _

/-- **a recorded ref rename stays recorded** -/
theorem renames_never_retracted (o : FOpts) (f : Nat) (s : FState) (inp : Bytes) (x : Bytes × Bytes)
    (hx : x ∈ s.refRenames) : x ∈ (loop o f s inp).refRenames := (loop_resExt o f s inp).ren x hx

/-! ### the map as the next run's input -/

/-- the id pairs a commit-map states: the new id of every commit whose mark the importer resolved, the zero id for dropped ones -/
def resolvedPairs (markId : Nat → Option Bytes) (pairs : List (Bytes × Option Nat)) : List (Bytes × Bytes) :=
  pairs.filterMap fun p =>
    match p.2 with
    | some mk => (markId mk).map fun id => (p.1, id)
    | none => some (p.1, zeroId)

/-- pair by pair the two files are the same line, or both none -/
theorem commitMap_eq_render (markId : Nat → Option Bytes) (pairs : List (Bytes × Option Nat)) :
    commitMap markId pairs = renderMap (resolvedPairs markId pairs) := by
  induction pairs with
  | nil => rfl
  | cons p r ih =>
    obtain ⟨old, m⟩ := p
    rw [resolvedPairs] at ih ⊢
    rw [List.filterMap_cons]
    show _ ++ commitMap markId r = _
    rw [ih]
    cases m with
    | none => rfl
    | some mk =>
      dsimp only
      cases markId mk <;> rfl

/-- **the commit-map of one run is exactly what the next run's id translator loads**: if the original ids and the ids the
    importer reports are hex strings, reading the file back (message.rs `from_debug_dir`) yields the stated pairs, in
    order, lower-cased, with dropped commits recorded as "no new id" — nothing is lost, merged or invented between the two
    runs. (`zeroId` is the translator's `nullOid`.) -/
theorem next_run_reads_this_runs_map (markId : Nat → Option Bytes) (pairs : List (Bytes × Option Nat))
    (h : ∀ p ∈ resolvedPairs markId pairs, HexStr p.1 ∧ HexStr p.2) (hne : resolvedPairs markId pairs ≠ []) :
    ShMap.ofFile (commitMap markId pairs) = some ((resolvedPairs markId pairs).foldl ShMap.push {}) := by
  rw [commitMap_eq_render]
  exact ofFile_renderMap _ h hne

example : zeroId = nullOid := by decide +kernel

end Frrs.C09
