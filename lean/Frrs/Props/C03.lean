/-
  C03 — Every ref ends on the image of its target; no ref keeps pre-rewrite history.
  This file: ref renaming (prefix substitution per namespace; nothing outside heads/tags is
  touched), the pruned-commit reset (the ref named in the header of a dropped commit is moved onto
  the surviving ancestor), the deferred lightweight-tag resets (first reset per ref wins, annotated
  names are skipped, nothing else is emitted), the migration of origin's remote-tracking refs
  before the export, and which old names finalize() deletes (`old_name_is_deleted`,
  `only_renamed_names_are_deleted`). The whole-stream statement is evaluated as the oracle
  `checkRefs` on the implementation's output; the update-ref batch itself is covered by the
  end-to-end runs.
-/
import Frrs.Proofs.Stanza
import Frrs.Proofs.Reader
import Frrs.Migrate
import Frrs.Proofs.Bytes
import Frrs.Proofs.Codec
import Frrs.Proofs.OldNames
namespace Frrs.C03

/-- `--branch-rename OLD:NEW` / `--tag-rename OLD:NEW`: prefix substitution inside the namespace -/
theorem renameIn_prefix (ns old new_ tail : Bytes) :
    renameIn ns (some (old, new_)) (ns ++ old ++ tail) = some (ns ++ new_ ++ tail) := by
  simp [renameIn, List.append_assoc]

theorem renameIn_no_rule (ns r : Bytes) : renameIn ns none r = none := by
  unfold renameIn; cases stripPrefix? r ns <;> rfl

/-- a name outside the namespace is never renamed by that namespace's rule -/
theorem renameIn_other_ns (ns r : Bytes) (rule : Option (Bytes × Bytes)) (h : startsWith r ns = false) :
    renameIn ns rule r = none := by
  rw [renameIn, stripPrefix?_eq_none h]

/-- **refs outside `refs/heads/` and `refs/tags/` keep their name** -/
theorem foreign_ref_untouched (o : RefRename) (r : Bytes)
    (h1 : startsWith r refsTags = false) (h2 : startsWith r refsHeads = false) : renameRef o r = none := by
  simp [renameRef, renameIn_other_ns _ _ _ h1, renameIn_other_ns _ _ _ h2]

/-- without rename options no ref is renamed -/
theorem no_rename (r : Bytes) : renameRef {} r = none := by
  simp [renameRef, renameIn_no_rule]

/-- a branch is renamed by the branch rule only, a tag by the tag rule only -/
theorem branch_uses_branch_rule (o : RefRename) (name : Bytes) :
    renameRef o (refsHeads ++ name) = renameIn refsHeads o.branchRename (refsHeads ++ name) := by
  have : startsWith (refsHeads ++ name) refsTags = false := rfl
  simp [renameRef, renameIn_other_ns _ _ _ this]

/-- **the ref of a pruned commit follows it to the surviving ancestor**: what is emitted for a
    dropped commit whose (renamed) header names `ref` is the alias followed by
    `reset <ref>` / `from :<canonical>` -/
theorem pruned_commit_moves_its_ref (ref rest : Bytes) (oldMark canonical : Nat)
    (h : ∀ b ∈ ref, b ≠ B.lf) :
    aliasAndReset (b!"commit " ++ ref ++ B.lf :: rest) oldMark canonical =
      buildAlias oldMark canonical ++ b!"reset " ++ ref ++ b!"\nfrom :" ++ natToDec canonical ++ b!"\n\n" := by
  have hl : ∀ b ∈ b!"commit " ++ ref, b ≠ B.lf := List.forall_mem_append.2 ⟨by decide, h⟩
  have hf : firstLine (b!"commit " ++ ref ++ B.lf :: rest) = b!"commit " ++ ref ++ [B.lf] := by
    rw [firstLine, readLine_line _ rest hl]
  have hs : startsWith (b!"commit " ++ ref ++ B.lf :: rest) b!"commit " = true := by
    rw [List.append_assoc]; exact startsWith_append_self _ _
  rw [aliasAndReset, hf, hs, lastIs_append_singleton, dropLast_append_singleton]
  -- the header ends in LF, so the reset is written; without the seven bytes of `commit ` it is `ref`
  show _ ++ (_ ++ ref ++ _ ++ _ ++ _) = _
  simp only [List.append_assoc]

/-! ### deferred lightweight-tag resets -/

theorem flush_nil (ann done : List Bytes) : flushTagResets ann [] done = [] := rfl

/-- a name created by an annotated `tag` block is never overwritten by a lightweight reset -/
theorem flush_skips_annotated (ann done : List Bytes) (r l : Bytes) (rest : List (Bytes × Bytes))
    (h : ann.contains r = true) :
    flushTagResets ann ((r, l) :: rest) done = flushTagResets ann rest done := by
  simp only [flushTagResets, h, Bool.true_or, if_true]

/-- the first buffered reset of a ref is emitted as `reset <ref>` followed by its `from` line -/
theorem flush_emits_first (ann done : List Bytes) (r l : Bytes) (rest : List (Bytes × Bytes))
    (h1 : ann.contains r = false) (h2 : done.contains r = false) :
    flushTagResets ann ((r, l) :: rest) done =
      b!"reset " ++ r ++ [B.lf] ++ l ++ flushTagResets ann rest (r :: done) := by
  simp only [flushTagResets, h1, h2, Bool.or_self, Bool.false_eq_true, if_false]

/-- later resets of the same ref in the same flush are dropped -/
theorem flush_once_per_ref (ann done : List Bytes) (r l : Bytes) (rest : List (Bytes × Bytes))
    (h : done.contains r = true) :
    flushTagResets ann ((r, l) :: rest) done = flushTagResets ann rest done := by
  simp only [flushTagResets, h, Bool.or_true, if_true]

/-! ### non-vacuity -/

example : renameRef { branchRename := some (b!"main", b!"trunk") } b!"refs/heads/main" = some b!"refs/heads/trunk" := by
  decide +kernel
example : renameRef { branchRename := some (b!"", b!"b/") } b!"refs/heads/x" = some b!"refs/heads/b/x" := by decide +kernel
example : renameRef { tagRename := some (b!"v", b!"rel-"), branchRename := some (b!"v", b!"w") } b!"refs/tags/v1" = some b!"refs/tags/rel-1" := by
  decide +kernel
example : renameRef { branchRename := some (b!"main", b!"trunk") } b!"refs/remotes/origin/main" = none := by decide +kernel
/-- a branch whose only commit is pruned: alias + reset onto the parent's image -/
example : (runBytes { path := { paths := [b!"keep"] } }
    b!"feature done\ncommit refs/heads/main\nmark :1\noriginal-oid aa\ndata 0\nM 100644 e69de29bb2d1d6434b8b29ae775ad8c2e48c5391 keep\n\ncommit refs/heads/side\nmark :2\noriginal-oid bb\ndata 0\nfrom :1\nM 100644 e69de29bb2d1d6434b8b29ae775ad8c2e48c5391 drop\n\ndone\n").out
    = b!"feature done\ncommit refs/heads/main\nmark :1\noriginal-oid aa\ndata 0\nM 100644 e69de29bb2d1d6434b8b29ae775ad8c2e48c5391 keep\n\nalias\nmark :2\nto :1\n\nreset refs/heads/side\nfrom :1\n\ndone\n" := by
  decide +kernel

/-! ### what the main loop does with a branch reset (for every input) -/

/-- **a branch reset names the renamed branch**: outside a commit, `reset refs/heads/<name>` is written as `reset <renamed>`
    when `--branch-rename` applies (and the pair is recorded for the ref-map), verbatim otherwise; the branch is noted as
    updated under its final name, and the next `from` line is captured as its target -/
theorem branch_reset_names_the_renamed_branch (o : FOpts) (s : FState) (name inp : Bytes)
    (hn : startsWith name refsHeads = true) (ht : startsWith name refsTags = false) :
    tailRules o s (b!"reset " ++ name ++ [B.lf]) inp =
      (match renameIn refsHeads o.refs.branchRename name with
       | some new_ =>
         .cont ({ s with refRenames := setInsert (name, new_) s.refRenames,
                         updatedBranchRefs := bsetInsert new_ s.updatedBranchRefs,
                         pendingBranchReset := some new_ }.emit (b!"reset " ++ new_ ++ [B.lf])) inp
       | none =>
         .cont ({ s with updatedBranchRefs := bsetInsert name s.updatedBranchRefs,
                         pendingBranchReset := some name }.emit (b!"reset " ++ name ++ [B.lf])) inp) := by
  -- without the six bytes of `reset ` the line is `name ++ [LF]`
  have hr : resetName (b!"reset " ++ name ++ [B.lf]) = name := stripLf_line name
  -- the line is neither a `data` header nor `done`; it is a `reset`
  have hd : startsWith (b!"reset " ++ name ++ [B.lf]) b!"data " = false := rfl
  have hdone : (b!"reset " ++ name ++ [B.lf] == b!"done\n") = false := rfl
  have hreset : startsWith (b!"reset " ++ name ++ [B.lf]) b!"reset " = true := by
    rw [List.append_assoc]; exact startsWith_append_self _ _
  unfold tailRules
  simp only [hd, hdone, hreset, hr, ht, hn, Bool.false_eq_true, if_false, Bool.and_false, Bool.and_true, if_true]
  cases renameIn refsHeads o.refs.branchRename name <;> rfl

/-! ### before the export: origin's remote-tracking refs become local branches (migrate.rs) -/

/-- **only origin's own refs are migrated**: what is deleted lies under `refs/remotes/origin/` — with the slash; the refs of a
    remote called `origin-old` or `origin2` are neither deleted nor copied -/
theorem migration_touches_only_origin (refs : List (Bytes × Bytes)) (r : Bytes) (hr : startsWith r originPrefix = false) :
    (∀ p ∈ (migratePlan refs).deletes, p.1 ≠ r) ∧ localNameOf r = none := by
  constructor
  · rintro p hp rfl
    exact Bool.false_ne_true (hr ▸ (List.mem_filter.1 hp).2)
  · simp only [localNameOf, stripPrefix?_eq_none hr, ite_self]

example : startsWith b!"refs/remotes/origin-old/main" originPrefix = false ∧ startsWith b!"refs/remotes/origin2/x" originPrefix = false ∧
    startsWith b!"refs/remotes/origin/feature/x" originPrefix = true := by decide +kernel

/-- **a migrated branch is a faithful copy**: every created local branch is the local name of one of origin's refs, points at
    the commit that ref pointed at, and overwrites nothing that existed -/
theorem migration_creates_faithful_copies (refs : List (Bytes × Bytes)) (c : Bytes × Bytes) (h : c ∈ (migratePlan refs).creates) :
    ∃ p ∈ refs, startsWith p.1 originPrefix = true ∧ localNameOf p.1 = some c.1 ∧ c.2 = p.2 ∧ ∀ q ∈ refs, q.1 ≠ c.1 := by
  obtain ⟨p, hp, hc⟩ := List.mem_filterMap.1 h
  obtain ⟨hp, hs⟩ := List.mem_filter.1 hp
  refine ⟨p, hp, hs, ?_⟩
  split at hc
  · next n hn =>
    split at hc
    · cases hc
    · next hany =>
      cases hc
      exact ⟨hn, rfl, fun q hq hqn => hany (List.any_eq_true.2 ⟨q, hq, beq_iff_eq.2 hqn⟩)⟩
  · cases hc

example : (migratePlan [(b!"refs/heads/main", b!"1"), (b!"refs/remotes/origin/HEAD", b!"1"), (b!"refs/remotes/origin/main", b!"1"),
    (b!"refs/remotes/origin/topic", b!"2"), (b!"refs/remotes/origin-old/legacy", b!"3")]).creates = [(b!"refs/heads/topic", b!"2")] := by
  decide +kernel

/-! ### the old name is gone (the deletion list of finalize(), `Finalize.deletedOldNames`) -/

/-- **The old name is gone**: a recorded rename `old → new` that changed the name, whose old name existed before the run
    and is not itself the new name of another rename, is on the deletion list of the update-ref batch — whatever other
    refs exist (names that merely *start* with the old name included) and in whatever order they are listed. -/
theorem old_name_is_deleted (renames : List (Bytes × Bytes)) (refsBefore : List Bytes) (old new_ : Bytes)
    (hmem : (old, new_) ∈ renames) (hne : old ≠ new_) (hchain : ∀ p ∈ renames, p.2 ≠ old) (hex : old ∈ refsBefore) :
    old ∈ deletedOldNames renames refsBefore :=
  OldNames.mem_deletedOldNames.2 ⟨⟨new_, hmem, hne⟩, hchain, hex⟩

/-- **and nothing else is**: every deleted name is the old side of a recorded rename that changed the name, and it
    existed before the run — no ref is lost to the clean-up of old names -/
theorem only_renamed_names_are_deleted (renames : List (Bytes × Bytes)) (refsBefore : List Bytes) (old : Bytes)
    (h : old ∈ deletedOldNames renames refsBefore) :
    (∃ new_, (old, new_) ∈ renames ∧ old ≠ new_) ∧ old ∈ refsBefore :=
  have ⟨hren, _, hex⟩ := OldNames.mem_deletedOldNames.1 h
  ⟨hren, hex⟩

end Frrs.C03
