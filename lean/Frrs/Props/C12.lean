/-
  C12 — Without --force the tool refuses any non-pristine repository, harmlessly.
  Logic (this file): the pre-flight decision over repository facts, in the order of the code —
  each documented violation is refused whatever else holds (no violation masks another: order only
  picks the message), a fresh clone is accepted (bare or not), --force bypasses; the freshness
  formula. Harmless: obligations over the extracted step table — the pre-flight runs before
  backup, fetch, origin migration and the stream.
  The facts are git's to report; they are gathered with plumbing by the end-to-end runner for all
  2^k subsets of k violations applied to a fresh clone, and the prediction of this model
  (accept/refuse and which error) is compared with the real CLI.
-/
import Frrs.Sanity
import Frrs.Pipeline
import Frrs.Extracted
import Frrs.Proofs.Cli
namespace Frrs.C12

/-- a documented freshness violation, as a predicate on the facts -/
inductive Violation : RepoFacts → Prop
  | staged {f} : f.bare = false → f.stagedDirty = true → Violation f
  | unstaged {f} : f.bare = false → f.unstagedDirty = true → Violation f
  | untracked {f} : f.bare = false → f.untracked = true → Violation f
  | stash {f} : f.stash = true → Violation f
  | reflog {f} : f.maxReflogEntries > 1 → Violation f
  | worktrees {f} : f.worktrees > 1 → Violation f
  | remotes {f} : remotesOk f.remotes = false → Violation f
  | unpushed {f} : unpushedBranches f ≠ [] → Violation f
  | notFresh {f} : freshlyPacked f.replaceRefs f.packs f.loose = false → Violation f

/-- without `--force`, with enforcement on: the first failing check of the list decides -/
theorem decision_eq_find (f : RepoFacts) :
    preflightDecision false true f = ((checkList f).find? (·.1)).map (·.2) := rfl

theorem some_failing_refuses (f : RepoFacts) (e : SanityError) (h : (true, e) ∈ checkList f) :
    (preflightDecision false true f).isSome = true := by
  rw [decision_eq_find, Option.isSome_map, List.find?_isSome]
  exact ⟨(true, e), h, rfl⟩

/-- **every violation is refused, whatever else is true of the repository** -/
theorem refuses (f : RepoFacts) (h : Violation f) : (preflightDecision false true f).isSome = true := by
  -- each violation makes one of the ten checks fail
  have fails : ∀ c ∈ checkList f, c.1 = true → (preflightDecision false true f).isSome = true :=
    fun (_, e) hc hb => some_failing_refuses f e (hb ▸ hc)
  simp only [checkList, List.forall_mem_cons] at fails
  obtain ⟨h1, h2, -, -, h5, h6, h7, h8, h9, h10, -⟩ := fails
  cases h with
  | staged hb hs => exact h1 (by simp [hb, hs])
  | unstaged hb hs => exact h1 (by simp [hb, hs])
  | untracked hb hs => exact h2 (by simp [hb, hs])
  | stash hs => exact h9 hs
  | reflog hs => exact h5 (decide_eq_true hs)
  | worktrees hs => exact h10 (decide_eq_true hs)
  | remotes hs => exact h8 (by simp [hs])
  | unpushed hs => exact h6 (by simp [hs])
  | notFresh hs => exact h7 (by simp [hs])

/-- **and nothing else is**: acceptance means none of the checks fired -/
theorem accepted_iff (f : RepoFacts) :
    preflightDecision false true f = none ↔ ∀ c ∈ checkList f, c.1 = false := by
  simp only [decision_eq_find, Option.map_eq_none_iff, List.find?_eq_none, Bool.not_eq_true]

/-- which error is shown: the first failing check in the order of the code -/
theorem first_failing_decides (f : RepoFacts) (pre : List (Bool × SanityError)) (e : SanityError)
    (post : List (Bool × SanityError)) (hl : checkList f = pre ++ (true, e) :: post)
    (hp : ∀ c ∈ pre, c.1 = false) : preflightDecision false true f = some e := by
  have hpre : pre.find? (·.1) = none := List.find?_eq_none.2 fun c hc => Bool.eq_false_iff.1 (hp c hc)
  rw [decision_eq_find, hl, List.find?_append, hpre]
  rfl

/-- **--force bypasses every check** -/
theorem force_bypasses (f : RepoFacts) (enforce : Bool) : preflightDecision true enforce f = none := by
  simp [preflightDecision]

/-- a genuinely fresh non-bare clone: one pack, nothing loose, local branches equal to origin -/
def freshClone (branches : List (Bytes × Bytes)) : RepoFacts :=
  { localBranches := branches.take 1, originBranches := branches }

/-- **a fresh clone is accepted** when its one local branch equals the origin branch -/
theorem fresh_clone_accepted (b : Bytes × Bytes) (rest : List (Bytes × Bytes)) :
    preflightDecision false true (freshClone (b :: rest)) = none := by
  have hu : unpushedBranches (freshClone (b :: rest)) = [] := by simp [unpushedBranches, freshClone]
  rw [accepted_iff]
  intro c hc
  simp only [checkList, hu, List.mem_cons, List.not_mem_nil, or_false] at hc
  rcases hc with rfl | rfl | rfl | rfl | rfl | rfl | rfl | rfl | rfl | rfl <;> rfl

/-- **a fresh bare clone is accepted** (no work-tree checks, no unpushed check) -/
theorem fresh_bare_clone_accepted (branches : List (Bytes × Bytes)) :
    preflightDecision false true { bare := true, localBranches := branches, originBranches := [] } = none := by
  rw [accepted_iff]
  intro c hc
  simp only [checkList, List.mem_cons, List.not_mem_nil, or_false] at hc
  rcases hc with rfl | rfl | rfl | rfl | rfl | rfl | rfl | rfl | rfl | rfl <;> rfl

/-- **freshness formula** (no replace refs): exactly one pack and nothing loose, or no pack and
    fewer than 100 loose objects -/
theorem freshness_formula (packs loose : Nat) :
    freshlyPacked 0 packs loose = true ↔ (packs = 1 ∧ loose = 0) ∨ (packs = 0 ∧ loose < 100) := by
  simp [freshlyPacked]

/-- harmless: the pre-flight precedes every step that can modify the repository (extracted order) -/
theorem preflight_before_everything :
    Pipe.CalledBefore Extracted.runEvents .preflight [.createBackup, .fetchAllRefs, .migrateOrigin, .streamRun] = true := by
  decide +kernel

/-! ### non-vacuity -/

example : preflightDecision false true { stash := true, maxReflogEntries := 3, loose := 7 } = some .reflogTooManyEntries := by decide
example : preflightDecision false true { localBranches := [(b!"main", b!"aa"), (b!"topic", b!"bb")], originBranches := [(b!"main", b!"aa")] }
    = some .unpushedChanges := by decide +kernel
example : freshlyPacked 0 0 99 = true ∧ freshlyPacked 0 0 100 = false ∧ freshlyPacked 0 1 1 = false := by decide
example : Violation { worktrees := 2 } := .worktrees (by decide)

/-- `--force` is only ever switched on: no later word of the command line takes it back (model of `parse_args`) -/
theorem force_flag_survives_the_line (badRegex args : List Bytes) (s o : Cli.CliOpts)
    (h : Cli.loop badRegex args s = .ok o) (hs : s.force = true) : o.force = true :=
  (Cli.loop_kept badRegex args s o h).force hs

end Frrs.C12
