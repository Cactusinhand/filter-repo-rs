/-
  C18 — same repository and options give the same result every time.

  The model's run function `Filter.runBytes : FOpts → Bytes → …` and the decision functions of finalize() are
  *functions* of the export stream, the options and the rule files: they take no environment, clock, locale,
  temporary directory, hash seed or schedule. The property is therefore decided by showing that the
  implementation has no other input either:
  * `hash_iteration_audited`, `no_hash_iteration_in_filter_path` — (tables extracted from /repo on every run)
    every iteration over a randomly seeded collection is one of the audited sites, none lies in the modules that
    produce the stream, the maps or the ref updates;
  * `minName_order_free`, `headTarget_order_free`, `deletedOldNames_order_free` — what finalize() computes from the
    HashMap of refs does not depend on the iteration order (any permutation of the names gives the same result);
  * `clock_reads_audited` — the clock is read only for file names, progress and the already-ran marker;
  * the stream-level correspondence is run under perturbed environments (TZ, LANG/LC_ALL, TMPDIR): the model has
    no environment, so any dependence shows as a disagreement;
  * end to end every generated (history, options) pair is run twice on identical copies — once plainly, once
    under a perturbed environment with niceness, CPU pinning and a `git` shim that delays and re-chunks all child
    I/O — and refs, HEAD, commit-map, ref-map and fast-export.filtered are compared byte for byte.
-/
import Frrs.Proofs.Order
import Frrs.Extracted
namespace Frrs.C18
open Frrs.Pipe

/-! ### obligations over the extracted tables -/

theorem hash_iteration_audited : Extracted.hashIterSites = auditedHashIter := by decide +kernel

theorem no_hash_iteration_in_filter_path :
    (Extracted.hashIterSites.filter fun s => filterPath.contains s.1) = [] := by decide +kernel

theorem clock_reads_audited : Extracted.clockReads = auditedClockReads := by decide +kernel

/-! ### what finalize() computes from the ref table is order-free -/

theorem minName_order_free {l₁ l₂ : List Bytes} (h : l₁.Perm l₂) : minName l₁ = minName l₂ := minName_perm h

theorem contains_perm {l₁ l₂ : List Bytes} (h : l₁.Perm l₂) (x : Bytes) : l₁.contains x = l₂.contains x := h.contains_eq

/-- the HEAD decision does not depend on the order in which the refs are enumerated -/
theorem headTarget_order_free (head : Option Bytes) {r₁ r₂ : List Bytes} (h : r₁.Perm r₂)
    (br : Option (Bytes × Bytes)) (upd : List Bytes) :
    headTarget head r₁ br upd = headTarget head r₂ br upd := by
  -- the refs are only asked whether a name is among them, and for the least branch name
  have hr (hd) : renamedHead hd r₁ br = renamedHead hd r₂ br := by simp only [renamedHead, contains_perm h]
  have hm (hd rn) : mustRetarget hd rn r₁ = mustRetarget hd rn r₂ := by simp only [mustRetarget, contains_perm h]
  have hf (rn) : headFallback rn upd r₁ = headFallback rn upd r₂ := by
    simp only [headFallback, minName_perm (h.filter _)]
  simp only [headTarget, hr, hm, hf]

/-- nor does the set of old names that are deleted -/
theorem deletedOldNames_order_free (renames : List (Bytes × Bytes)) {r₁ r₂ : List Bytes} (h : r₁.Perm r₂) :
    deletedOldNames renames r₁ = deletedOldNames renames r₂ := by
  simp only [deletedOldNames, minName_perm (h.filter _)]

/-! ### non-vacuity -/

example : headTarget (some b!"refs/heads/gone") [b!"refs/heads/z", b!"refs/heads/a"] none [] = some b!"refs/heads/a" ∧
          headTarget (some b!"refs/heads/gone") [b!"refs/heads/a", b!"refs/heads/z"] none [] = some b!"refs/heads/a" := by
  decide +kernel

example : minName [b!"b", b!"a", b!"c"] = some b!"a" ∧ minName [b!"c", b!"b", b!"a"] = some b!"a" := by decide +kernel

end Frrs.C18
