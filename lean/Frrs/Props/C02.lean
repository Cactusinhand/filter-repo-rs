/-
  C02 — Rewritten commit graph is the original graph with pruned commits contracted.
  This file: the keep/prune decision (the whole table, stated outright) and the parent rewrite
  (`finalize_parent_lines`): images in original order, duplicates removed, first kept parent is
  `from`, no parent invented. The graph-level simulation (parents of the imported commit = dedup of
  the images of the original parents; pruned commit ↦ first parent's image) is
  `Sim.mini_c01_c02` (Frrs/Sim/Sim.lean) over the command-level model.
-/
import Frrs.Proofs.Bytes
import Frrs.Proofs.Decimal
import Frrs.Proofs.Loop
import Frrs.Proofs.Bridge
namespace Frrs.C02

/-- whether the pruning settings allow dropping a change-less commit of this kind -/
def policyAllows (o : PruneOpts) (wasMerge isDegenerate : Bool) : Bool :=
  if wasMerge && isDegenerate then !o.noFf && o.pruneDegenerate != .never
  else o.pruneEmpty != .never

/-- **The decision table, stated outright**: a commit is dropped exactly when it has a parent and
    a mark, none of its file changes survived, fewer than two parents remain, and the
    --prune-empty / --prune-degenerate / --no-ff setting allows it. -/
theorem keep_table (hc : Bool) (fp mk : Option Nat) (pc : Nat) (wm dg : Bool) (o : PruneOpts) :
    shouldKeepCommit hc fp mk pc wm dg o =
      !(fp.isSome && mk.isSome && !hc && decide (pc < 2) && policyAllows o wm dg) := by
  unfold shouldKeepCommit policyAllows
  -- for a root, a commit without a mark and one with a surviving change both sides evaluate to `true`
  cases fp <;> cases mk <;> cases hc <;> try rfl
  simp only [Option.isNone_some, Option.isSome_some, Bool.or_self, Bool.and_self, Bool.not_false,
    Bool.true_and, Bool.false_eq_true, if_false]
  by_cases h : pc ≥ 2
  · rw [if_pos h, decide_eq_false (Nat.not_lt.2 h)]; rfl
  · rw [if_neg h, decide_eq_true (Nat.lt_of_not_ge h)]
    split
    · cases o.noFf <;> cases o.pruneDegenerate <;> rfl
    · cases o.pruneEmpty <;> rfl

/-- a commit with a surviving change is never dropped -/
theorem keep_if_change (fp mk : Option Nat) (pc : Nat) (wm dg : Bool) (o : PruneOpts) :
    shouldKeepCommit true fp mk pc wm dg o = true := by
  simp [keep_table]

/-- a root commit (no surviving first parent) is never dropped -/
theorem keep_root (hc : Bool) (mk : Option Nat) (pc : Nat) (wm dg : Bool) (o : PruneOpts) :
    shouldKeepCommit hc none mk pc wm dg o = true :=
  Bridge.root_always_kept hc mk pc wm dg o

/-- a merge that still has two parents is never dropped -/
theorem keep_merge (hc : Bool) (fp mk : Option Nat) (pc : Nat) (wm dg : Bool) (o : PruneOpts)
    (h : 2 ≤ pc) : shouldKeepCommit hc fp mk pc wm dg o = true := by
  have : ¬ pc < 2 := Nat.not_lt.2 h
  simp [keep_table, this]

/-- with `--prune-empty never --prune-degenerate never` nothing is ever dropped -/
theorem keep_all_never (hc : Bool) (fp mk : Option Nat) (pc : Nat) (wm dg nf : Bool) :
    shouldKeepCommit hc fp mk pc wm dg { pruneEmpty := .never, pruneDegenerate := .never, noFf := nf } = true := by
  simp [keep_table, policyAllows]

/-- `--no-ff` keeps every degenerate merge -/
theorem keep_noff (hc : Bool) (fp mk : Option Nat) (pc : Nat) (o : PruneOpts) (h : o.noFf = true) :
    shouldKeepCommit hc fp mk pc true true o = true := by
  simp [keep_table, policyAllows, h]

/-! ### parents -/

def outMarks : List ParentOut → List Nat
  | [] => []
  | .canonical m _ :: r => m :: outMarks r
  | _ :: r => outMarks r

theorem outMarks_eq : ∀ l : List ParentOut, outMarks l = Bridge.keptMarks l
  | [] => rfl
  | .canonical _ _ :: r => congrArg _ (outMarks_eq r)
  | .dropped :: r => outMarks_eq r
  | .raw _ :: r => outMarks_eq r

/-- **Parents are the images of the original parents, original order, duplicates removed** (first occurrences
    kept; `seen` = the images already written). -/
theorem parents_are_dedup_images (emitted : Nat → Bool) (alias : AliasMap) (ps : List ParentLine) (seen : List Nat) :
    outMarks (classifyParents emitted alias ps seen)
      = Sim.dedupAux seen (((Bridge.marksOf ps).map (resolveCanonical alias)).filter emitted) :=
  (outMarks_eq _).trans (Bridge.keptMarks_classify emitted alias ps seen)

/-- **No commit gains a parent it did not have**: every emitted parent mark is the image of an
    original parent. -/
theorem no_parent_invented (emitted : Nat → Bool) (alias : AliasMap) (ps : List ParentLine) :
    ∀ m ∈ outMarks (classifyParents emitted alias ps []),
      ∃ p ∈ ps, ∃ mk, p.mark = some mk ∧ m = resolveCanonical alias mk := by
  intro m hm
  rw [parents_are_dedup_images] at hm
  have := Sim.dedupAux_sub _ _ m hm
  simp only [Bridge.marksOf, List.mem_filter, List.mem_map, List.mem_filterMap] at this
  obtain ⟨⟨mk, ⟨p, hp, hpm⟩, rfl⟩, _⟩ := this
  exact ⟨p, hp, mk, hpm, rfl⟩

/-- duplicates are removed -/
theorem parents_nodup (emitted : Nat → Bool) (alias : AliasMap) (ps : List ParentLine) :
    (outMarks (classifyParents emitted alias ps [])).Nodup := by
  rw [parents_are_dedup_images]; exact (Sim.dedupAux_nodup _ _).1

/-- the first kept parent is written as `from`, and it is what the prune decision looks at -/
theorem first_is_from (m : Nat) (isMerge : Bool) (r : List ParentOut) :
    renderParents (.canonical m isMerge :: r) true =
      (b!"from :" ++ natToDec m ++ [B.lf]) :: renderParents r false := rfl

theorem first_parent_is_first_image (emitted : Nat → Bool) (alias : AliasMap) (ps : List ParentLine)
    (hall : ∀ p ∈ ps, p.mark.isSome) :
    (finalizeParents emitted alias ps).firstParentMark =
      (outMarks (classifyParents emitted alias ps [])).head? := by
  rw [outMarks_eq]
  exact (Bridge.first_and_count emitted alias ps [] hall).1

/-- an unaliased mark is its own image -/
theorem resolve_unaliased (alias : AliasMap) (m : Nat) (h : alias.get m = none) :
    resolveCanonical alias m = m := by
  simp [resolveCanonical, resolveAux, h]

/-! ### non-vacuity -/

example : shouldKeepCommit false (some 3) (some 7) 1 true true {} = false := by decide
example : shouldKeepCommit false (some 3) (some 7) 1 true true { noFf := true } = true := by decide
example : shouldKeepCommit false (some 3) (some 7) 1 false false { pruneEmpty := .never } = true := by decide
/-- octopus (M1, X1, Y1) where Y1 was pruned onto M1: images [1, 2, 1] → parents [1, 2] -/
example : (finalizeParents (fun m => m == 1 || m == 2) [(3, 1)]
    [{ raw := b!"from :1\n", mark := some 1, isMerge := false },
     { raw := b!"merge :2\n", mark := some 2, isMerge := true },
     { raw := b!"merge :3\n", mark := some 3, isMerge := true }]) =
    { lines := [b!"from :1\n", b!"merge :2\n", []], firstParentMark := some 1, kept := 2 } := by decide +kernel
/-- first parent pruned away entirely: the second becomes `from` -/
example : (finalizeParents (fun m => m == 2) []
    [{ raw := b!"from :1\n", mark := some 1, isMerge := false },
     { raw := b!"merge :2\n", mark := some 2, isMerge := true }]).lines = [[], b!"from :2\n"] := by decide +kernel

/-! ### the alias table only ever points at commits the importer has (for every input, option set and fuel) -/

/-- every `alias` the filter has emitted maps a pruned commit's mark to a mark that was emitted as a commit -/
def AliasInv (s : FState) : Prop := ∀ p ∈ s.alias, p.2 ∈ s.emitted

theorem alias_inv_init : AliasInv {} := fun _ hp => nomatch hp

/-- **one iteration of the main loop preserves it** — so the importer is never handed an alias to a mark it does not know,
    and a child of a pruned commit is re-parented onto a commit that exists -/
theorem alias_inv_step (o : FOpts) (s s' : FState) (line inp inp' : Bytes) (fuel : Nat) (h : AliasInv s)
    (hs : step o s line inp fuel = .cont s' inp') : AliasInv s' :=
  (step_cont hs).1.ainv h

/-- emitted marks are never forgotten -/
theorem emitted_monotone (o : FOpts) (s s' : FState) (line inp inp' : Bytes) (fuel : Nat)
    (hs : step o s line inp fuel = .cont s' inp') (m : Nat) (hm : m ∈ s.emitted) : m ∈ s'.emitted :=
  (step_cont hs).1.emitted m hm

/-! ### what ending a commit writes -/

/-- a kept commit is written as its buffer (header, metadata, the finalized parent lines, the surviving change lines) and
    nothing else -/
theorem kept_commit_is_written (s : FState) (e : CommitEnd) : (recordKept s e).out = s.out ++ (e.buf ++ [B.lf]) := by
  unfold recordKept
  dsimp only
  split <;> rfl

/-- a pruned commit writes either nothing or exactly one alias stanza (with the reset that moves its ref), and the alias
    target is a mark that was emitted -/
theorem pruned_commit_writes_alias_or_nothing (s : FState) (e : CommitEnd) :
    (recordDropped s e).out = s.out ∨
    ∃ oldMark canonical, (recordDropped s e).out = s.out ++ aliasAndReset e.buf oldMark canonical ∧ canonical ∈ s.emitted := by
  -- recording the id pair touches neither the output nor the emitted marks
  have hz : (recordZeroPair s).out = s.out ∧ (recordZeroPair s).emitted = s.emitted := by
    unfold recordZeroPair; split <;> exact ⟨rfl, rfl⟩
  rw [← hz.1, ← hz.2, recordDropped]
  generalize recordZeroPair s = t
  fun_cases aliasDropped t e with
  | case1 oldMark _ _ _ canonical hem =>
    exact Or.inr ⟨oldMark, canonical, rfl, List.contains_iff_mem.1 hem⟩
  | case2 => exact Or.inl rfl
  | case3 => exact Or.inl rfl

/-! ### marks survive rendering and re-reading (for every mark that fits `u32`) -/

/-- a `mark :N` line rendered by the filter is read back as `N` -/
theorem mark_line_round_trip (n : Nat) (hn : n ≤ u32Max) :
    parseMarkLine (b!"mark :" ++ natToDec n ++ [B.lf]) = some n := by
  rw [parseMarkLine, List.append_assoc, stripPrefix?_append]
  exact satDigits_natToDec n [B.lf] hn (by decide)

/-- the parent line `from :N` that the filter writes for a re-parented commit (`renderParents`, `aliasAndReset`) is read
    back — by the filter's own parser and, by the same grammar, by the importer — as mark `N` -/
theorem from_line_round_trip (n : Nat) (hn : n ≤ u32Max) :
    parseFromMark (b!"from :" ++ natToDec n ++ [B.lf]) = some n := by
  have h : b!"from :" ++ natToDec n ++ [B.lf] = b!"from " ++ B.colon :: (natToDec n ++ [B.lf]) := rfl
  rw [h, parseFromMark, parseRefMark, stripPrefix?_append]
  exact satDigits_natToDec n [B.lf] hn (by decide)

/-! ### bridge to the command-level simulation (namespace `Sim`)

The graph-level statement of C02 is proved over `Sim.fstep`. These theorems say that the pieces of `Sim.fstep` are what
the line-level functions — the ones the correspondence runs tie to commit.rs — compute. -/

/-- **The parents `finalize_parent_lines` keeps are the parents of the simulation**: for a commit whose parent lines all
    carry marks, on a one-level alias table in which every canonical parent was emitted, they are the canonical images of
    the original parents, in order, first occurrences only — `Sim.dedup (parents.map canon)`. -/
theorem kept_parents_are_the_simulations (emitted : Nat → Bool) (alias : AliasMap) (hflat : Bridge.Flat alias)
    (ps : List ParentLine) (hm : Bridge.AllMarked ps)
    (hem : ∀ k ∈ Bridge.marksOf ps, emitted (resolveCanonical alias k) = true) :
    Bridge.keptMarks (classifyParents emitted alias ps [])
      = Sim.dedup ((Bridge.marksOf ps).map (Sim.canon (Bridge.simState alias))) :=
  Bridge.parents_refine emitted alias hflat ps hm hem

/-- without the side conditions: always the de-duplicated canonical marks that were emitted -/
theorem kept_parents_in_general (emitted : Nat → Bool) (alias : AliasMap) (ps : List ParentLine) (seen : List Nat)
    (hm : Bridge.AllMarked ps) :
    Bridge.keptMarks (classifyParents emitted alias ps seen)
      = Sim.dedupAux seen (((Bridge.marksOf ps).map (resolveCanonical alias)).filter emitted) :=
  Bridge.classify_is_dedup emitted alias ps seen hm

/-- `first_parent_mark` and the kept count are the head and the length of that list -/
theorem first_parent_and_count (emitted : Nat → Bool) (alias : AliasMap) (ps : List ParentLine) (hm : Bridge.AllMarked ps) :
    firstKeptMark (classifyParents emitted alias ps []) = (Bridge.keptMarks (classifyParents emitted alias ps [])).head? ∧
    keptCount (classifyParents emitted alias ps []) = (Bridge.keptMarks (classifyParents emitted alias ps [])).length :=
  Bridge.first_and_count emitted alias ps [] hm

/-- on a one-level alias table `resolve_canonical_mark` is the single look-up of the simulation -/
theorem canonical_mark_is_one_lookup (m : AliasMap) (hflat : Bridge.Flat m) (k : Nat) :
    resolveCanonical m k = Sim.canon (Bridge.simState m) k := Bridge.resolve_is_canon m hflat k

/-- the insertion made for a pruned commit (fresh mark ↦ canonical mark) keeps the table one level deep -/
theorem alias_table_stays_one_level (m : AliasMap) (hflat : Bridge.Flat m) (old c : Nat) (hc : m.get c = none)
    (hne : old ≠ c) (hfresh : ∀ k v, m.get k = some v → v ≠ old) : Bridge.Flat ((old, c) :: m) :=
  Bridge.flat_insert m hflat old c hc hne hfresh

/-- with the default options `should_keep_commit` prunes exactly when `Sim.fstep` writes an alias:
    no surviving change and a single surviving parent -/
theorem default_prune_is_the_simulations {α : Type} (fch : List α) (q : Nat) (rest : List Nat) (mk : Nat)
    (wasMerge isDeg : Bool) :
    shouldKeepCommit (!fch.isEmpty) (some q) (some mk) (q :: rest).length wasMerge isDeg {}
      = !(fch.isEmpty && rest.isEmpty) := Bridge.default_prune_matches_fstep fch q rest mk wasMerge isDeg

/-- **At the end of every commit of the byte-level main loop** the parent information the prune decision and the alias
    are computed from is that of the simulation: first parent and kept count are head and length of the de-duplicated
    canonical emitted marks of the commit's parents — for every filter state, whatever was read before. -/
theorem commit_end_parents_are_the_simulations (s : FState)
    (hne : (parentsOf s.segs.reverse).isEmpty = false) (hm : Bridge.AllMarked (parentsOf s.segs.reverse)) :
    let ks := Sim.dedupAux [] (((Bridge.marksOf (parentsOf s.segs.reverse)).map (resolveCanonical s.alias)).filter
                (fun m => s.emitted.contains m))
    (commitEndInfo s).firstParent = ks.head? ∧ (commitEndInfo s).kept = ks.length :=
  Bridge.commitEnd_parents s hne hm

/-- a commit without parent lines reaches the decision as a root, and a root is kept under every pruning setting -/
theorem commit_end_root_is_kept (o : FOpts) (s : FState) (h : (parentsOf s.segs.reverse).isEmpty = true) :
    keepDecision o s (commitEndInfo s) = true := by
  have hr := Bridge.commitEnd_root s h
  unfold keepDecision
  rw [hr.1]
  exact Bridge.root_always_kept _ _ _ _ _ _

/-- with the default pruning options the loop keeps a non-root commit exactly when a change survived or two parents did -/
theorem loop_keep_decision_default (o : FOpts) (s : FState) (e : CommitEnd) (p mk : Nat)
    (ho : o.prune = {}) (hp : e.firstParent = some p) (hmk : s.commitMark = some mk) :
    keepDecision o s e = (s.hasChanges || decide (e.kept ≥ 2)) := by
  unfold keepDecision
  rw [ho, hp, hmk]
  exact Bridge.default_keep_is_sim _ _ _ _ _ _

/-- **the alias the loop records for a pruned commit keeps the alias table one level deep** when the commit's mark is
    fresh (what `git fast-export` guarantees by numbering marks in stream order): so on exporter streams the chain walk of
    `resolve_canonical_mark` is the single look-up of the simulation at every commit (`canonical_mark_is_one_lookup`) -/
theorem loop_alias_table_stays_one_level (s : FState) (e : CommitEnd) (hflat : Bridge.Flat s.alias)
    (hfresh : ∀ om pm, s.commitMark = some om → e.firstParent = some pm →
      (∀ k v, s.alias.get k = some v → v ≠ om) ∧ om ≠ resolveCanonical s.alias pm) :
    Bridge.Flat (aliasDropped s e).alias := Bridge.aliasDropped_keeps_flat s e hflat hfresh

end Frrs.C02
