/-
  C07 — After a full rewrite no object in the repository still holds a replaced secret.
  Logic part (this file): when is a literal *gone* after the single left-to-right pass that C05
  mandates? `compat n r` (decidable): no occurrence of `n` can be created at or across an inserted
  copy of `r`. Under it, for every haystack, the output contains no occurrence; for a whole rule
  file, pairwise compatibility of every literal with every replacement suffices. The statement's
  own hypothesis ("the replacement does not contain the literal") is provably *not* sufficient
  (witness below) — recorded as finding N7, whose class is exactly `¬ compat` ∧ the literal survives.
  Runtime part (git's): every blob/message the importer receives went through that pass (C05/C04),
  refs/HEAD/index end on images (C03/C14), and `reflog expire --expire=now --all; gc --prune=now`
  drops everything else — a contract observed by scanning the whole object database end to end.
-/
import Frrs.Proofs.Compat
import Frrs.Props.C05
import Frrs.Proofs.Cli
import Frrs.Proofs.Pipes
namespace Frrs.C07

/-- **one rule**: under `compat` the literal does not occur in the result, for every input -/
theorem literal_gone (h n r : Bytes) (hn : n ≠ []) (hc : compat n r = true) :
    ¬ Occurs n (replaceAll h n r) :=
  repl_clean (compat_sound hc) hn (C05.replaceAll_spec h n r hn)

/-- a later rule cannot bring an already-removed literal back if that literal is compatible with
    the later rule's replacement -/
theorem stays_gone (n' h n r : Bytes) (hn' : n' ≠ []) (hc : compat n' r = true)
    (hclean : ¬ Occurs n' h) : ¬ Occurs n' (replaceAll h n r) := by
  by_cases hn : n = []
  · subst hn; exact hclean
  · exact repl_stays_clean (compat_sound hc) hn' (C05.replaceAll_spec h n r hn) hclean

/-- **a whole rule file**: if every literal is compatible with every replacement of the file, then
    after applying the rules in file order none of the literals occurs, for every input -/
theorem rule_file_clean (rules : List (Bytes × Bytes)) (h : Bytes)
    (hne : ∀ a ∈ rules, a.1 ≠ [])
    (hc : ∀ a ∈ rules, ∀ b ∈ rules, compat a.1 b.2 = true) :
    ∀ a ∈ rules, ¬ Occurs a.1 (applyLiteral rules h) := by
  -- a literal that is gone stays gone under all the rules that follow
  have stays (n' : Bytes) (hn' : n' ≠ []) : ∀ (rs : List (Bytes × Bytes)) (h : Bytes),
      (∀ b ∈ rs, compat n' b.2 = true) → ¬ Occurs n' h → ¬ Occurs n' (applyLiteral rs h) := by
    intro rs
    induction rs with
    | nil => exact fun _ _ hcl => hcl
    | cons rule rs ih =>
      exact fun h hc hcl => ih _ (fun b hb => hc b (.tail _ hb))
        (stays_gone n' h rule.1 rule.2 hn' (hc rule (.head _)) hcl)
  induction rules generalizing h with
  | nil => nofun
  | cons rule rs ih =>
    intro a ha
    rw [C05.apply_cons]
    rcases List.mem_cons.1 ha with rfl | ha'
    · exact stays a.1 (hne a ha) rs _ (fun b hb => hc a ha b (.tail _ hb))
        (literal_gone h a.1 a.2 (hne a ha) (hc a ha a ha))
    · exact ih _ (fun a ha => hne a (.tail _ ha)) (fun a ha b hb => hc a (.tail _ ha) b (.tail _ hb))
        a ha'

/-- **finding N7**: "the replacement does not contain the literal" is not enough — the empty
    replacement does not contain `ab`, yet one pass over `aabb` leaves `ab` -/
theorem n7_witness : ¬ Occurs b!"ab" b!"" ∧ Occurs b!"ab" (replaceAll b!"aabb" b!"ab" b!"") := by
  constructor
  · exact not_occurs_nil (by decide)
  · exact ⟨[], [], by decide⟩

/-- … and `compat` rejects exactly that pair -/
example : compat b!"ab" b!"" = false := by decide
example : compat b!"*x" b!"***REMOVED***" = false := by decide +kernel   -- a suffix of the replacement starts the literal

/-! ### non-vacuity -/

example : compat b!"hunter2" b!"***REMOVED***" = true := by decide +kernel
example : compat b!"secret" b!"X" = true := by decide +kernel
example : ¬ Occurs b!"hunter2" (replaceAll b!"pw=hunter2hunter2;" b!"hunter2" b!"***REMOVED***") :=
  literal_gone _ _ _ (by decide) (by decide +kernel)

/-! ### the clean-up is there for every full, real run (model of `parse_args`, Frrs/Cli.lean) -/

/-- **Whatever is typed on the command line, a run that is neither partial nor a dry run is given a clean-up mode**
    (`reflog expire --expire=now --all` and `gc --prune=now` run after the import). In particular the legacy spelling
    `--cleanup none` cannot switch it off for a full rewrite. -/
theorem full_real_run_is_cleaned (badRegex argv : List Bytes) (o : Cli.CliOpts)
    (h : Cli.parseArgs badRegex argv = .ok o) (hp : o.partialRun = false) (hd : o.dryRun = false) :
    o.cleanup ≠ .none := by
  obtain ⟨_, _, s, _, _, rfl⟩ := Cli.parseArgs_ok h
  -- `partialRun` and `dryRun` of the result are those of the loop's state: the default touches the clean-up mode only
  obtain ⟨c, hc⟩ := Cli.defaultCleanup_shape s
  rw [hc] at hp hd
  rw [Cli.defaultCleanup_spec]
  split
  · nofun
  · next hn => exact fun hs => hn ⟨hs, hp, hd⟩

/-- the only way to a full-history export is the default ref selection: any `--ref`/`--refs` makes the run partial -/
theorem ref_selection_means_partial (badRegex argv : List Bytes) (o : Cli.CliOpts)
    (h : Cli.parseArgs badRegex argv = .ok o) (hr : o.refs ≠ [b!"--all"]) : o.partialRun = true := by
  obtain ⟨args, _, s, _, hl, rfl⟩ := Cli.parseArgs_ok h
  obtain ⟨c, hc⟩ := Cli.defaultCleanup_shape s
  rw [hc] at hr ⊢
  have hinv := (Cli.loop_kept badRegex args _ s hl).refs ⟨fun _ => rfl, Bool.noConfusion⟩
  cases hg : s.refsGiven with
  | true => exact hinv.2 hg
  | false => exact absurd (hinv.1 hg) hr

example : ((Cli.okOf (Cli.parseArgs [] [b!"--replace-text", b!"rules.txt", b!"--cleanup", b!"none"])).map (·.cleanup))
    = some Cli.Cleanup.standard := by decide +kernel

/-- **a run that is not partial exports every ref**: for every command line, the exporter of a non-partial run is started
    with `--all` — no branch, tag, remote-tracking ref or stash is left out of the rewrite to keep rooting the old objects
    (`parse_args` and `build_fast_export_cmd` composed) -/
theorem full_run_exports_every_ref (c : Pipes.Caps) (badRegex argv : List Bytes) (o : Cli.CliOpts) (args : List Bytes)
    (hp : Cli.parseArgs badRegex argv = .ok o) (hfull : o.partialRun = false) (hov : o.feOverride = none)
    (hx : Pipes.exportCmd c o = some args) : b!"--all" ∈ args := by
  have hrefs : o.refs = [b!"--all"] := Decidable.of_not_not fun h =>
    Bool.false_ne_true (hfull ▸ ref_selection_means_partial badRegex argv o hp h)
  exact (Pipes.exportCmd_has c o args hx hov).1 _ (.inl (by rw [hrefs]; exact List.mem_singleton_self _))

end Frrs.C07
