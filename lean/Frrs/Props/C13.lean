/-
  C13 — --backup yields a bundle from which the pre-rewrite state is restorable.
  Logic (this file): obligations over the step tables extracted from /repo on this run — the
  backup is taken before the sensitive fetch, before origin migration and before the stream (the
  first steps that can change a ref or an object); the bundle command is followed by a status check
  that returns an error; the refs handed to `git bundle create` are the export selection. And the
  pure location logic of `create_backup` (default, directory and file forms).
  What is git's: the bundle's content (`bundle verify`, completeness of the pack) — observed end
  to end: verify, list-heads = pre-run refs, mirror clone + fsck + every pre-run reachable object.
-/
import Frrs.Pipeline
import Frrs.Backup
import Frrs.Extracted
import Frrs.Proofs.Cli
namespace Frrs.C13
open Frrs.Pipe

/-- **the backup precedes every step that can modify the repository** -/
theorem backup_first :
    CalledBefore Extracted.runEvents .createBackup [.fetchAllRefs, .migrateOrigin, .streamRun] = true := by
  decide +kernel

/-- the pre-flight (which refuses without touching anything) and option validation come before it -/
theorem preflight_before_backup :
    CalledBefore Extracted.runEvents .preflight [.createBackup] = true ∧
    CalledBefore Extracted.runEvents .validateOptions [.createBackup] = true := by
  constructor <;> decide +kernel

/-- **a bundle that cannot be created stops the run**: `git bundle create` is immediately followed
    by `if !status.success() { return Err(..) }` -/
theorem bundle_failure_is_an_error :
    (match Extracted.backupEvents with
     | [.git c, .statusCheck .cmd] => c.sub == .bundle && c.tags.contains .create && !c.mutatesRepo
     | _ => false) = true := by decide +kernel

/-- and nothing else in `create_backup` runs a git command -/
theorem backup_runs_only_bundle : (Extracted.backupEvents.filter fun e => match e with | .git _ => true | _ => false).length = 1 := by
  decide +kernel

/-! ### where the bundle goes (pure path logic of `create_backup`) -/

inductive BackupPath where
  | none                                         -- no --backup-path
  | given (isExistingDir : Bool) (hasExtension : Bool)

inductive BundleLocation where
  | inGitDirFilterRepo        -- <git-dir>/filter-repo/backup-<timestamp>.bundle
  | insideGivenDirectory      -- <path>/backup-<timestamp>.bundle (directory created)
  | exactlyGivenFile          -- <path> (parent directory created)
  deriving DecidableEq

def bundleLocation : BackupPath → BundleLocation
  | .none => .inGitDirFilterRepo
  | .given isDir hasExt => if isDir || !hasExt then .insideGivenDirectory else .exactlyGivenFile

theorem default_location : bundleLocation .none = .inGitDirFilterRepo := rfl
theorem directory_form (hasExt : Bool) : bundleLocation (.given true hasExt) = .insideGivenDirectory := rfl
theorem extensionless_is_directory : bundleLocation (.given false false) = .insideGivenDirectory := rfl
theorem file_form : bundleLocation (.given false true) = .exactlyGivenFile := rfl

/-! ### where the bundle is written (backup.rs) -/

/-- without `--backup-path` the bundle goes under `<git dir>/filter-repo/` -/
theorem backup_default_location (isDir : Bool) : backupDest none isDir = .defaultDir := rfl

/-- an existing directory is always used as a directory, whatever its name looks like (`releases.d/`) -/
theorem backup_existing_directory (p : Bytes) : backupDest (some p) true = .inDir p := by simp [backupDest]

/-- a path that is no existing directory is the bundle file itself exactly when its last component has an extension;
    otherwise it names a directory to be created -/
theorem backup_file_form (p : Bytes) :
    backupDest (some p) false = (if (pathExtension p).isSome then .file p else .inDir p) := by
  cases h : pathExtension p <;> simp [backupDest, h]

example : backupDest (some b!"out/my.bundle") false = .file b!"out/my.bundle" ∧ backupDest (some b!"bk dir") false = .inDir b!"bk dir" ∧
    backupDest (some b!".hidden") false = .inDir b!".hidden" ∧ backupDest (some b!"v1.2/") false = .file b!"v1.2/" := by decide +kernel

/-- `--backup`, once read on the command line, is still set when the line ends (model of `parse_args`) -/
theorem backup_flag_survives_the_line (badRegex args : List Bytes) (s o : Cli.CliOpts)
    (h : Cli.loop badRegex args s = .ok o) (hs : s.backup = true) : o.backup = true :=
  (Cli.loop_kept badRegex args s o h).backup hs

end Frrs.C13
