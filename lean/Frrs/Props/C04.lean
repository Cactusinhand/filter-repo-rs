/-
  C04 — Commit and tag metadata survive byte-for-byte unless an option rewrites them.
  This file: the author/committer line rewriters (dates, identity rules, mailmap) and the
  message rule engine; then what the main loop does with the lines of a commit (header
  preservation, message framing), the ids cited in messages, and the date options as typed.
-/
import Frrs.Proofs.Stanza
import Frrs.Identity
import Frrs.Proofs.Replace
import Frrs.Props.C05
import Frrs.Proofs.ShortHash
import Frrs.Proofs.Duration
namespace Frrs.C04

/-! ### no option ⇒ byte-identical -/

theorem timestamp_noop (l : Bytes) : rewriteTimestampLine {} l = l := rfl

theorem author_noop (l : Bytes) : rewriteAuthorLine [] l = l := rfl

theorem email_noop (l : Bytes) : rewriteEmailLine [] l = l := rfl

theorem mailmap_noop (l : Bytes) : mailmapRewriteLine [] l = l := rfl

theorem idKeyword_author (x : Bytes) : idKeyword (kwAuthor ++ x) = some kwAuthor :=
  if_pos (startsWith_append_self _ _)

theorem idKeyword_committer (x : Bytes) : idKeyword (kwCommitter ++ x) = some kwCommitter := by
  -- the first bytes differ
  have : startsWith (kwCommitter ++ x) kwAuthor = false := rfl
  rw [idKeyword, this, startsWith_append_self]
  rfl

theorem idKeyword_some {l pre : Bytes} (h : idKeyword l = some pre) : pre = kwAuthor ∨ pre = kwCommitter := by
  unfold idKeyword at h
  split at h
  · left; exact (Option.some.inj h).symm
  · split at h
    · right; exact (Option.some.inj h).symm
    · cases h

/-- a line that is not an author/committer line is never touched by the date options -/
theorem timestamp_other_keyword (o : DateOpts) (l : Bytes) (h : idKeyword l = none) :
    rewriteTimestampLine o l = l := by
  simp only [rewriteTimestampLine, h, ite_self]

/-! ### dates: shifted never below the epoch, or set; the rest of the line is kept -/

/-- the number written by a shift is never negative, whatever the original and the shift -/
theorem shifted_nonneg (ts sh : Int) : 0 ≤ newTimestamp { shift := some sh } ts := by
  simp only [newTimestamp]; exact Int.le_max_right _ _

/-- and it is the exact sum whenever that sum is a non-negative 64-bit value -/
theorem shifted_exact (ts sh : Int) (h0 : 0 ≤ ts + sh) (h1 : ts + sh ≤ i64Max) :
    newTimestamp { shift := some sh } ts = ts + sh := by
  have h2 : i64Min ≤ ts + sh := Int.le_trans (by decide) h0
  simp only [newTimestamp, satAdd, gt_iff_lt, if_neg (Int.not_lt.2 h1), if_neg (Int.not_lt.2 h2), Int.max_eq_left h0]

/-- `--date-set` overrides the shift -/
theorem set_wins (o : DateOpts) (fixed ts : Int) (h : o.set = some fixed) : newTimestamp o ts = fixed := by
  simp [newTimestamp, h]

/-- shape of every rewritten line: keyword and identity bytes (up to the last '>') are the
    original ones, the timezone token is the original one; only the number changes, and it is
    `newTimestamp` of the number that was there. -/
theorem timestamp_shape (o : DateOpts) (l : Bytes) :
    rewriteTimestampLine o l = l ∨
    ∃ pre identity after tsStr tz ts,
      (pre = kwAuthor ∨ pre = kwCommitter) ∧
      rsplitAfter B.gt (l.drop pre.length) = some (identity, after) ∧
      firstTwoTokens after = some (tsStr, tz) ∧ parseI64 tsStr = some ts ∧
      rewriteTimestampLine o l =
        pre ++ identity ++ [0x20] ++ intToDec (newTimestamp o ts) ++ [0x20] ++ tz ++ [0x0a] := by
  fun_cases rewriteTimestampLine o l
  case case7 _ _ pre hk identity after hs tsStr tz ht ts hp =>
    exact Or.inr ⟨pre, identity, after, tsStr, tz, ts, idKeyword_some hk, hs, ht, hp, rfl⟩
  all_goals exact Or.inl rfl

/-! ### identity rules touch the identity only -/

theorem rsplitAfter_last (x : UInt8) (a t : Bytes) (ht : ∀ b ∈ t, b ≠ x) :
    rsplitAfter x (a ++ x :: t) = some (a ++ [x], t) := by
  have e : (a ++ x :: t).reverse = t.reverse ++ x :: a.reverse := by simp
  rw [rsplitAfter, e, splitAtFirst_byte t.reverse x a.reverse fun b hb => ht b (List.mem_reverse.mp hb)]
  simp

/-- **the header keyword and everything after the closing '>' (timestamp, timezone) are never
    rewritten by `--author-rewrite` / `--committer-rewrite` rules** -/
theorem author_rewrite_confined (rules : List (Bytes × Bytes)) (kw ident tail : Bytes)
    (hkw : ∀ b ∈ kw, b ≠ 0x20) (ht : ∀ b ∈ tail, b ≠ B.gt) :
    ∃ mid, rewriteAuthorLine rules (kw ++ 0x20 :: (ident ++ B.gt :: tail))
      = kw ++ 0x20 :: (mid ++ tail) := by
  unfold rewriteAuthorLine
  split
  · exact ⟨ident ++ [B.gt], by simp⟩             -- no rules: the line is returned as it is
  · simp only [afterFirstSpace, splitAtFirst_byte kw 0x20 _ hkw, rsplitAfter_last B.gt ident tail ht]
    exact ⟨authorRewrite rules (ident ++ [B.gt]), by simp⟩

/-- `--email-rewrite` rules see only the bytes between the first '<' and the next '>' -/
theorem email_rewrite_confined (rules : List (Bytes × Bytes)) (before email after : Bytes)
    (hb : ∀ b ∈ before, b ≠ B.lt) (he : ∀ b ∈ email, b ≠ B.gt)
    (hu : utf8Valid (before ++ B.lt :: (email ++ B.gt :: after)) = true) (hr : rules ≠ []) :
    rewriteEmailLine rules (before ++ B.lt :: (email ++ B.gt :: after))
      = before ++ B.lt :: (authorRewrite rules email ++ B.gt :: after) := by
  simp [rewriteEmailLine, List.isEmpty_eq_false_iff.mpr hr, hu, splitAtFirst_byte before B.lt _ hb,
    splitAtFirst_byte email B.gt after he]

/-! ### mailmap: keyed by the old e-mail, first matching rule decides -/

/-- how `mailmapRewriteLine` takes an identity line apart: keyword, name up to the first '<', e-mail up to the next '>' -/
theorem mailmap_parts (hdr name email suffix : Bytes) (hh : hdr = kwAuthor ∨ hdr = kwCommitter)
    (hn : ∀ b ∈ name, b ≠ B.lt) (he : ∀ b ∈ email, b ≠ B.gt) :
    idKeyword (hdr ++ name ++ B.lt :: (email ++ B.gt :: suffix)) = some hdr ∧
    splitAtFirst (· == B.lt) ((hdr ++ name ++ B.lt :: (email ++ B.gt :: suffix)).drop hdr.length) =
      some (name, email ++ B.gt :: suffix) ∧
    splitAtFirst (· == B.gt) (email ++ B.gt :: suffix) = some (email, suffix) := by
  refine ⟨?_, ?_, splitAtFirst_byte email B.gt suffix he⟩
  · rw [List.append_assoc]
    rcases hh with rfl | rfl
    · exact idKeyword_author _
    · exact idKeyword_committer _
  · rw [List.append_assoc, List.drop_left]
    exact splitAtFirst_byte name B.lt _ hn

theorem mailmap_first_rule (r : MailmapRule) (rules : List MailmapRule) (hdr name email suffix : Bytes)
    (hh : hdr = kwAuthor ∨ hdr = kwCommitter)
    (hn : ∀ b ∈ name, b ≠ B.lt) (he : ∀ b ∈ email, b ≠ B.gt)
    (hu : utf8Valid (hdr ++ name ++ B.lt :: (email ++ B.gt :: suffix)) = true)
    (hkey : r.oldEmail = email) :
    mailmapRewriteLine (r :: rules) (hdr ++ name ++ B.lt :: (email ++ B.gt :: suffix)) =
      hdr ++ (let n := if r.newName.isEmpty then trimEnd name else r.newName
              if n.isEmpty then [] else n ++ [0x20]) ++
        [B.lt] ++ (if r.newEmail.isEmpty then email else r.newEmail) ++ [B.gt] ++ suffix := by
  obtain ⟨h1, h2, h3⟩ := mailmap_parts hdr name email suffix hh hn he
  have hf : (r :: rules).find? (fun r => r.oldEmail == email) = some r :=
    List.find?_cons_of_pos (beq_iff_eq.2 hkey)
  simp only [mailmapRewriteLine, List.isEmpty_cons, hu, h1, h2, h3, hf, Bool.not_true, Bool.false_eq_true, if_false]

/-- a line whose e-mail no rule names is returned unchanged -/
theorem mailmap_other_email (rules : List MailmapRule) (hdr name email suffix : Bytes)
    (hn : ∀ b ∈ name, b ≠ B.lt) (he : ∀ b ∈ email, b ≠ B.gt)
    (hnone : ∀ r ∈ rules, r.oldEmail ≠ email) (hh : hdr = kwAuthor ∨ hdr = kwCommitter) :
    mailmapRewriteLine rules (hdr ++ name ++ B.lt :: (email ++ B.gt :: suffix)) =
      hdr ++ name ++ B.lt :: (email ++ B.gt :: suffix) := by
  obtain ⟨h1, h2, h3⟩ := mailmap_parts hdr name email suffix hh hn he
  have : rules.find? (fun r => r.oldEmail == email) = none :=
    List.find?_eq_none.2 fun r hr => mt eq_of_beq (hnone r hr)
  simp only [mailmapRewriteLine, h1, h2, h3, this, ite_self]

/-! ### messages: `--replace-message` literals use the same engine as `--replace-text` -/

theorem message_rule_meaning (m n r : Bytes) (hn : n ≠ []) : Repl n r m (replaceAll m n r) :=
  C05.replaceAll_spec m n r hn

theorem message_rules_in_file_order (rule : Bytes × Bytes) (rules : List (Bytes × Bytes)) (m : Bytes) :
    applyLiteral (rule :: rules) m = applyLiteral rules (replaceAll m rule.1 rule.2) := rfl

theorem message_unchanged (rules : List (Bytes × Bytes)) (m : Bytes)
    (h : ∀ rule ∈ rules, ¬ Occurs rule.1 m) : applyLiteral rules m = m :=
  C05.apply_unchanged rules m h

/-! ### non-vacuity -/

example : rewriteTimestampLine { shift := some (-3600) } b!"author Al <a@e> 1000 +0100\n"
    = b!"author Al <a@e> 0 +0100\n" := by decide +kernel
example : rewriteTimestampLine { shift := some 3600 } b!"committer J\xc3\xb6 <a@e> 1700000017 -0830\n"
    = b!"committer J\xc3\xb6 <a@e> 1700003617 -0830\n" := by decide +kernel
example : rewriteTimestampLine { set := some 42 } b!"author Al <a@e> 1000 +0100\n"
    = b!"author Al <a@e> 42 +0100\n" := by decide +kernel
example : rewriteAuthorLine [(b!"17", b!"99")] b!"author Al 17 <a17@e> 1700000017 +0100\n"
    = b!"author Al 99 <a99@e> 1700000017 +0100\n" := by decide +kernel
example : rewriteAuthorLine [(b!"author", b!"writer")] b!"author author <a@e> 1 +0000\n"
    = b!"author writer <a@e> 1 +0000\n" := by decide +kernel
example : mailmapRewriteLine [{ oldEmail := b!"old@e", newName := b!"New", newEmail := b!"new@e" }]
    b!"author Old <old@e> 5 +0000\n" = b!"author New <new@e> 5 +0000\n" := by decide +kernel

/-! ### what the main loop does with the lines of a commit (for every input) -/

/-- **identity lines**: inside a commit an `author`/`committer` line (any line that is not `M …`, blank, or an inline payload
    header) reaches the commit buffer as `rewriteIdentityLine o line` — the theorems above say what that is; a line that is
    neither `author` nor `committer` is not touched by the identity rules at all -/
theorem identity_line_in_commit (o : FOpts) (s : FState) (line inp : Bytes)
    (h1 : startsWith line b!"M " = false) (h2 : (line == [B.lf]) = false)
    (h3 : (startsWith line b!"data " && s.pendingInline.isSome) = false) :
    stepInCommit o s line inp = commitLine o s (rewriteIdentityLine o line) inp := by
  unfold stepInCommit mDropOf
  simp only [h1, h2, h3, Bool.false_eq_true, if_false, Bool.false_and]

theorem non_identity_line_untouched (o : FOpts) (line : Bytes) (ha : startsWith line kwAuthor = false)
    (hc : startsWith line kwCommitter = false) : rewriteIdentityLine o line = line := by
  simp [rewriteIdentityLine, ha, hc]

/-- **the commit message**: exactly the payload is rewritten (by the message rules), its length header recomputed, and
    whatever bytes it holds it cannot be mistaken for a command — the next line is read right after it -/
theorem commit_message_rewritten_exactly (o : FOpts) (s : FState) (line inp payload rest : Bytes) (n : Nat)
    (hm : parseMarkLine line = none) (hl : startsWith line b!"data " = true)
    (hh : parseDataHeader line = some n) (hr : readExact n inp = some (payload, rest)) :
    commitLine o s line inp =
      .cont (s.push (dataHeader (rewriteMessage o payload).length ++ rewriteMessage o payload)) rest := by
  obtain ⟨tl, rfl⟩ := startsWith_data_cons hl
  -- a line that starts with `d` is no `original-oid` line
  have ho : startsWith (0x64 :: tl) b!"original-oid " = false := rfl
  simp only [commitLine, hm, ho, hl, hh, hr, Bool.false_eq_true, if_false, if_true]

/-- **every other header line survives byte for byte** (`encoding`, signature headers, anything unknown) -/
theorem other_header_verbatim (o : FOpts) (s : FState) (line inp : Bytes)
    (hm : parseMarkLine line = none) (h1 : startsWith line b!"original-oid " = false) (h2 : startsWith line b!"data " = false)
    (h3 : startsWith line b!"from " = false) (h4 : startsWith line b!"merge " = false)
    (h5 : (startsWith line b!"M " || startsWith line b!"D " || startsWith line b!"C " || startsWith line b!"R " ||
            line == b!"deleteall\n") = false) :
    commitLine o s line inp = .cont (s.push line) inp := by
  unfold commitLine
  simp only [hm, h1, h2, h3, h4, h5, Bool.false_eq_true, if_false]

/-! ### commit ids cited in messages (second and later runs in a repository) -/

/-- **the id translator only ever swaps digits for digits, length for length**: with the commit-map of an earlier run in
    place, a message keeps its length whatever ids it cites — an abbreviation of n digits becomes the first n digits of the
    new id, a full id the full new id, every other byte is copied (new ids of 40 digits, as the tool writes them in a SHA-1
    repository; `WF40`). -/
theorem cited_ids_keep_message_length (m : ShMap) (h : WF40 m) (msg : Bytes) :
    (rewriteMessage { shortHash := some m.rewrite } msg).length = msg.length :=
  rewrite_length m h msg

/-- an abbreviation that two recorded commits share is not guessed at -/
theorem ambiguous_abbreviation_untouched (m : ShMap) (short a b : Bytes) (ha : a ∈ m.olds) (hb : b ∈ m.olds) (hab : a ≠ b)
    (pa : short.length ≤ a.length ∧ a.take short.length = short) (pb : short.length ≤ b.length ∧ b.take short.length = short) :
    m.lookupPrefix short = none := by
  cases h : m.lookupPrefix short with
  | none => rfl
  | some new =>
    obtain ⟨full, _, only, -⟩ := lookupPrefix_eq_some h
    exact absurd ((only a ha pa).trans (only b hb pb).symm) hab

/-- hex words of fewer than seven digits are never treated as ids -/
theorem short_words_untouched (m : ShMap) (c : Bytes) (h : c.length < 7) : m.translate c = none := by
  simp [ShMap.translate, minShort, h]

example : WF40 ((ShMap.ofFile b!"abcdef0123456789abcdef0123456789abcdef01 1111111111222222222233333333334444444444\n").getD {}) :=
  wf40_of_b _ (by decide +kernel)

/-! ### the date options as typed on the command line (opts.rs `parse_duration`, `parse_timestamp`) -/

/-- the unit names of `--date-shift` have the documented lengths (the whole table) -/
theorem date_shift_units :
    [b!"second", b!"seconds", b!"s", b!"minute", b!"minutes", b!"min", b!"mins", b!"m", b!"hour", b!"hours", b!"h",
     b!"day", b!"days", b!"d", b!"week", b!"weeks", b!"w", b!"month", b!"months", b!"mo", b!"year", b!"years", b!"y"].map unitSeconds =
    [some 1, some 1, some 1, some 60, some 60, some 60, some 60, some 60, some 3600, some 3600, some 3600,
     some 86400, some 86400, some 86400, some 604800, some 604800, some 604800, some 2592000, some 2592000, some 2592000,
     some 31536000, some 31536000, some 31536000] := by decide +kernel

/-- **`--date-shift "[+|-]<n> <unit>"` shifts by sign · n · (length of the unit) seconds**: for every n, every sign spelling and
    every unit name made of letters that the table knows (upper or lower case), as long as the product fits an i64 (beyond
    that the code saturates, `durationGo_pair`). The unit is given as its letters `u ++ [c]` (non-empty). -/
theorem date_shift_single_component (sgn : Bytes) (sign : Int) (n : Nat) (u : Bytes) (c : UInt8) (m : Int)
    (hs : (sgn, sign) ∈ [(([] : Bytes), (1 : Int)), ([0x2b], 1), ([0x2d], -1)])
    (hu : ∀ b ∈ u ++ [c], isAlpha b = true) (hm : unitSeconds ((u ++ [c]).map lowerAsciiB) = some m)
    (hm0 : 0 ≤ m) (hb : (n : Int) * m ≤ i64Max) (hn : (n : Int) ≤ i64Max) :
    parseDuration (sgn ++ natToDec n ++ B.sp :: (u ++ [c])) = some (sign * ((n : Int) * m)) := by
  obtain ⟨hne, hd, hv⟩ := natToDec_digits n
  have := parseDuration_single sgn sign _ _ m hs hne hd (by simp) hu hm hm0 (hv.symm ▸ hb) (hv.symm ▸ hn)
  rwa [hv] at this

/-- `--date-set N` with a plain number of seconds sets every timestamp to N, for every N an i64 holds -/
theorem date_set_seconds (n : Nat) (hn : (n : Int) ≤ i64Max) : parseTimestamp (natToDec n) = some (n : Int) := by
  obtain ⟨hne, hd, hv⟩ := natToDec_digits n
  rw [parseTimestamp_digits _ hne hd (hv.symm ▸ hn), hv]

/-- the hypotheses are met by, e.g., `-<n> HOURS` (not vacuous) -/
example : (∀ b ∈ b!"HOUR" ++ [0x53], isAlpha b = true) ∧ unitSeconds ((b!"HOUR" ++ [0x53]).map lowerAsciiB) = some 3600 := by
  decide +kernel

-- tests (concrete values, not the claim): the examples of the help text, the sign applies to the sum, saturation, refusals
example : parseDuration b!"+2 hours" = some 7200 := by decide +kernel
example : parseDuration b!"-1 day 3 hours" = some (-97200) := by decide +kernel
example : parseDuration b!"+30 minutes" = some 1800 := by decide +kernel
example : parseDuration b!"300000000000 years" = some i64Max := by decide +kernel
example : parseDuration b!"2 fortnights" = none ∧ parseDuration b!"2" = none := by decide +kernel
example : parseTimestamp b!"1700000000" = some 1700000000 := by decide +kernel
example : parseTimestamp b!"2024-01-01T00:00:00Z" = some 1704067200 := by decide +kernel
example : parseTimestamp b!"2024-03-01T12:00:00+09:00" = some 1709262000 := by decide +kernel
example : parseTimestamp b!"2024-02-30" = none ∧ parseTimestamp b!"2024/03/01" = none := by decide +kernel

end Frrs.C04
