/-
  C01 — Every commit's rewritten tree is exactly the selected, renamed original tree.
  (a) what "the selected, renamed original tree" is (`expectTree`, the oracle evaluated on the
      implementation's output for every generated history) — sound and complete w.r.t. the
      selectors, modes and blobs untouched;
  (b) one change line: mode and object id are carried over unchanged, the path is renamed;
  (c) the simulation argument at command level (namespace `Sim`, Frrs/Sim/Sim.lean): for every stream of commits, with a
      rename that is injective on kept paths, every commit has an image whose tree is the
      selected, renamed original tree — kept commits directly, pruned commits through their
      alias. The link between that abstract filter and the byte-level `Filter.runBytes` is the
      blueprint they share; it is checked by the stream-level correspondence and the oracle, not
      proved as a whole (see DESIGN.md, Appendix C; the parent list, the canonical mark and the prune
      decision are proved equal piece by piece in Frrs/Proofs/Bridge.lean).
-/
import Frrs.Filter
import Frrs.Oracle
import Frrs.Sim.Sim
import Frrs.Props.C15
import Frrs.Proofs.Bytes
namespace Frrs.C01

/-- **no unselected entry survives, nothing is invented**: every entry of the expected tree is a
    selected, unstripped original entry at its renamed path with the same mode -/
theorem expect_sound (o : FOpts) (t : Tree) (e' : Entry) (h : e' ∈ expectTree o t) :
    ∃ e ∈ t, shouldKeep o.path [e.path] = true ∧ strippedBlob o e.blob = false ∧
      e'.path = sanitize (rewritePath o.path.renames e.path) ∧ e'.mode = e.mode ∧ e'.blob = mapBlob o e.blob := by
  simp only [expectTree, List.mem_filterMap] at h
  obtain ⟨e, he, hc⟩ := h
  split at hc
  · next hk =>
    cases hc
    simp only [Bool.and_eq_true, Bool.not_eq_true'] at hk
    exact ⟨e, he, hk.1, hk.2, rfl, rfl, rfl⟩
  · cases hc

/-- **no selected entry is lost** -/
theorem expect_complete (o : FOpts) (t : Tree) (e : Entry) (he : e ∈ t)
    (hk : shouldKeep o.path [e.path] = true) (hs : strippedBlob o e.blob = false) :
    { path := sanitize (rewritePath o.path.renames e.path), mode := e.mode, blob := mapBlob o e.blob } ∈ expectTree o t := by
  simp only [expectTree, List.mem_filterMap]
  exact ⟨e, he, by simp [hk, hs]⟩

/-- without a content option the blob is the same blob -/
theorem same_blob_without_content_rules (o : FOpts) (b : BlobId)
    (h1 : o.blobRules = none) (h2 : o.blobRegex = none) : forgetOid (mapBlob o b) = forgetOid b := by
  cases b <;> simp [mapBlob, forgetOid, rewriteBlob, h1, h2]

/-- **one change line**: a selected `M` line keeps its mode and object id and gets the renamed
    path (what the importer reads back is the sanitised renamed path) -/
theorem change_line_M (o : PathOpts) (mode id q p le : Bytes)
    (hm : ∀ b ∈ mode, b ≠ 0x20) (hi : ∀ b ∈ id, b ≠ 0x20) (hr : ReprOf q p) (hle : LineEnd le)
    (hk : shouldKeep o [p] = true) :
    ∃ field, handleFileChangeLine o (b!"M " ++ mode ++ [0x20] ++ id ++ [0x20] ++ q ++ le) =
        some (b!"M " ++ mode ++ [0x20] ++ id ++ [0x20] ++ field ++ [0x0a]) ∧
      gitReadPath field = some (sanitize (rewritePath o.renames p)) :=
  C15.importer_sees_M o mode id q p le hm hi hr hle hk

/-- an unselected change line is dropped -/
theorem change_line_dropped (o : PathOpts) (mode id q p le : Bytes)
    (hm : ∀ b ∈ mode, b ≠ 0x20) (hi : ∀ b ∈ id, b ≠ 0x20) (hr : ReprOf q p) (hle : LineEnd le)
    (hk : shouldKeep o [p] = false) :
    handleFileChangeLine o (b!"M " ++ mode ++ [0x20] ++ id ++ [0x20] ++ q ++ le) = none := by
  rw [C15.handle_M o mode id q p le hm hi hr hle, hk]; rfl

/-- renames are applied in order, each to the result of the previous one -/
theorem rename_in_order (r : Bytes × Bytes) (rs : List (Bytes × Bytes)) (p : Bytes) :
    rewritePath (r :: rs) p = rewritePath rs (renameStep p r) := by
  simp only [rewritePath, List.foldl_cons]

/-- a rule whose OLD is a prefix of the path replaces that prefix by NEW; otherwise the path stays -/
theorem rename_step_prefix (old new_ tail : Bytes) : renameStep (old ++ tail) (old, new_) = new_ ++ tail := by
  simp [renameStep]

theorem rename_step_other (p : Bytes) (r : Bytes × Bytes) (h : startsWith p r.1 = false) :
    renameStep p r = p := by
  rw [renameStep, stripPrefix?_eq_none h]

theorem rename_none (p : Bytes) : rewritePath [] p = p := rfl

/-- **The simulation (command level).** For every list of commits whose marks and parents are
    well formed, and every selection/rename with the rename injective on selected paths: every
    commit `c` has an image `canon F' c.mark` in the import of the filtered stream whose tree is
    the selected, renamed tree of `c` in the import of the original stream. -/
theorem tree_simulation (keep : Tr.Path → Bool) (ren : Tr.Path → Tr.Path) (hinj : Sim.Inj keep ren)
    (cs : List Sim.Commit) (hwf : Sim.WF (fun _ => False) cs) :
    let I := Sim.irun (cs.map Sim.Cmd.commit)
    let I' := Sim.irun (Sim.frun keep ren ⟨fun _ => none⟩ cs)
    ∃ F' : Sim.FState, ∀ c ∈ cs,
      I'.obj c.mark = some (Sim.canon F' c.mark) ∧
      Tr.Img keep ren (I'.tree (Sim.canon F' c.mark)) (I.tree c.mark) := by
  obtain ⟨F', h⟩ := Sim.mini_c01_c02 keep ren hinj cs hwf
  exact ⟨F', fun c hc => ⟨(h c hc).1, (h c hc).2.1⟩⟩

/-! ### non-vacuity -/

def t0 : Tree := [{ path := b!"src/a.md", mode := b!"100644", blob := .sha b!"aa" },
                  { path := b!"drop/x", mode := b!"100755", blob := .sha b!"bb" }]

example : expectTree { path := { paths := [b!"src/"], renames := [(b!"src/", b!"")] } } t0 =
    [{ path := b!"a.md", mode := b!"100644", blob := .sha b!"aa" }] := by decide +kernel
example : expectTree { path := { paths := [b!"src/"], invert := true } } t0 =
    [{ path := b!"drop/x", mode := b!"100755", blob := .sha b!"bb" }] := by decide +kernel
/-- a rename that is *not* injective on kept paths is outside the claim: the guard detects it -/
example : renameOk { path := { renames := [(b!"src/a.md", b!"f"), (b!"drop/x", b!"f")] } }
    { commits := [{ mark := none, refname := [], origOid := none, headers := [], msg := [], parents := [], tree := t0 }] } = false := by
  decide +kernel

/-! ### what the main loop does with a change line of a commit (for every input) -/

/-- **every `D`/`C`/`R`/`deleteall` line (and every `M` line of a blob that is not stripped) of a commit passes through
    `handleFileChangeLine` and nothing else**: kept lines are buffered rebuilt (selected, renamed: `change_line_M` …),
    dropped lines leave no trace, and the commit is marked as having changes exactly when a line survives -/
theorem change_line_in_commit (o : FOpts) (s : FState) (line inp : Bytes)
    (hm : parseMarkLine line = none) (h1 : startsWith line b!"original-oid " = false) (h2 : startsWith line b!"data " = false)
    (h3 : startsWith line b!"from " = false) (h4 : startsWith line b!"merge " = false)
    (h5 : (startsWith line b!"M " || startsWith line b!"D " || startsWith line b!"C " || startsWith line b!"R " ||
            line == b!"deleteall\n") = true) :
    commitLine o s line inp =
      (match handleFileChangeLine o.path line with
       | some l => .cont { s.push l with hasChanges := true } inp
       | none => .cont s inp) := by
  unfold commitLine
  simp only [hm, h1, h2, h3, h4, h5, Bool.false_eq_true, if_false, if_true]
  cases handleFileChangeLine o.path line <;> rfl

end Frrs.C01
