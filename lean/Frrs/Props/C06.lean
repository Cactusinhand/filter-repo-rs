/-
  C06 — Size/id blob stripping removes exactly the targeted file versions.
  This file: the strict size limit, id lookup, what a stripped `M` line becomes (a deletion of
  the *selected, renamed* path — composition with path filtering), the blob branch of the loop
  at the sizes n-1, n, n+1. The tree-level statement ("absent, never an older version") is the
  `expectTree` oracle of C01 with `strippedBlob`.
-/
import Frrs.Proofs.Stanza
import Frrs.Oracle
import Frrs.Props.C15
import Frrs.Proofs.CliValues
import Frrs.Validate
import Frrs.Proofs.Pipes
namespace Frrs.C06

set_option linter.unusedVariables false in  -- `hs` is not needed: content without an id is never looked up in the id list
/-- **the limit is strict**: a blob of exactly the limit stays, one byte more is stripped -/
theorem size_limit_strict (o : FOpts) (mx : Nat) (c : Bytes) (h : o.maxBlob = some mx) (hs : o.stripIds = []) :
    strippedBlob o (.content c none) = decide (c.length > mx) := by
  simp [strippedBlob, h]

theorem at_limit_kept (o : FOpts) (c : Bytes) (h : o.maxBlob = some c.length) :
    strippedBlob o (.content c none) = false := by
  simp [strippedBlob, h]

theorem above_limit_stripped (o : FOpts) (c : Bytes) (mx : Nat) (h : o.maxBlob = some mx) (hl : mx < c.length)
    (oid : Option Bytes) : strippedBlob o (.content c oid) = true := by
  simp [strippedBlob, h, hl]

/-- id lookup: exactly the listed 40-hex ids, case-insensitively -/
theorem strip_lookup (ids : List Bytes) (sha : Bytes) :
    stripContains ids sha = true ↔ is40Hex sha = true ∧ lowerHexBytes sha ∈ ids := by
  simp [stripContains]

theorem strip_lookup_empty (sha : Bytes) : stripContains [] sha = false := Bool.and_false _

/-- without a limit and without ids nothing is ever stripped -/
theorem nothing_stripped (o : FOpts) (b : BlobId) (h1 : o.maxBlob = none) (h2 : o.stripIds = []) :
    strippedBlob o b = false := by
  rcases b with ⟨c, _ | oid⟩ | h <;> simp [strippedBlob, h1, h2, strip_lookup_empty]

/-- **a stripped `M` becomes a deletion of the selected, renamed path** — or nothing at all when
    the path is not selected: stripping composes with path selection and renaming -/
theorem stripped_M_is_filtered_D (o : PathOpts) (q p le : Bytes) (hr : ReprOf q p) (hle : LineEnd le) :
    handleFileChangeLine o (b!"D " ++ (q ++ le)) =
      if shouldKeep o [p] then some (b!"D " ++ encodePathForFi (rewritePath o.renames p) ++ [0x0a])
      else none :=
  C15.handle_D o q p le hr hle

/-- the id file: a line that is not 40 hex digits is an error, not silently ignored -/
example : parseStripIds b!"# ids\n\nB000000000000000000000000000000000000006\n" =
    some [b!"b000000000000000000000000000000000000006"] := by decide +kernel
example : parseStripIds b!"nothex\n" = none := by decide +kernel

/-! ### the blob branch at n-1, n, n+1 (limit 5) -/

def blobStream (payload : Bytes) : Bytes :=
  b!"feature done\nblob\nmark :1\ndata " ++ natToDec payload.length ++ [B.lf] ++ payload ++
  b!"\ncommit refs/heads/main\nmark :2\ndata 0\nM 100644 :1 f\n\ndone\n"

/-- what the tool forwards for a kept blob: the same stream without the blank separator line -/
def blobOut (payload : Bytes) : Bytes :=
  b!"feature done\nblob\nmark :1\ndata " ++ natToDec payload.length ++ [B.lf] ++ payload ++
  b!"commit refs/heads/main\nmark :2\ndata 0\nM 100644 :1 f\n\ndone\n"

example : (runBytes { maxBlob := some 5 } (blobStream b!"1234")).out = blobOut b!"1234" := by decide +kernel
example : (runBytes { maxBlob := some 5 } (blobStream b!"12345")).out = blobOut b!"12345" := by decide +kernel
/-- one byte over: the blob is not forwarded and the `M` line becomes `D f` -/
example : (runBytes { maxBlob := some 5 } (blobStream b!"123456")).out =
    b!"feature done\ncommit refs/heads/main\nmark :2\ndata 0\nD f\n\ndone\n" := by decide +kernel
/-- with a rename: the deletion names the renamed path -/
example : (runBytes { maxBlob := some 5, path := { renames := [(b!"f", b!"g")] } } (blobStream b!"123456")).out =
    b!"feature done\ncommit refs/heads/main\nmark :2\ndata 0\nD g\n\ndone\n" := by decide +kernel

/-! ### the blob stanza as the main loop handles it (for every payload) -/

/-- **a targeted blob leaves no byte behind**: over the limit (strictly) or listed by id ⇒ nothing is written for the
    stanza, the mark is remembered (so that `M` lines naming it become deletions, `stripped_M_is_filtered_D`), the mark is
    not counted as emitted, and the loop resumes right after the payload -/
theorem stripped_blob_writes_nothing (o : FOpts) (s : FState) (line inp payload rest : Bytes) (n fuel : Nat)
    (hs : s.skippingTag = false) (hb : s.inBlob = true) (hc : s.inCommit = false)
    (hp1 : s.pendingTagReset = none) (hp2 : s.pendingBranchReset = none)
    (hl : startsWith line b!"data " = true) (hh : parseDataHeader line = some n)
    (hr : readExact n inp = some (payload, rest)) (hk : blobStripped o s n = true) :
    ∃ s', step o s line inp fuel = .cont s' rest ∧ s'.out = s.out ∧ s'.inBlob = false ∧ s'.emitted = s.emitted ∧
      (∀ m, s.lastBlobMark = some m → m ∈ s'.oversizeMarks) := by
  rw [step_data_line o s line inp fuel hs hc hp1 hp2 hl, tailRules, if_pos hl]
  simp only [hh, hr]
  -- inside a blob, and `blobStripped` is the test of the branch
  refine ⟨_, (if_pos hb).trans (if_pos hk), ?_⟩
  cases s.lastBlobMark with
  | none => exact ⟨rfl, rfl, rfl, nofun⟩
  | some m => exact ⟨rfl, rfl, rfl, fun _ e => Option.some.inj e ▸ List.mem_cons_self⟩

/-- and a blob that is not targeted is forwarded (nothing else is stripped) -/
theorem untargeted_blob_is_forwarded (o : FOpts) (s : FState) (line inp payload rest : Bytes) (n fuel : Nat)
    (hs : s.skippingTag = false) (hb : s.inBlob = true) (hc : s.inCommit = false)
    (hp1 : s.pendingTagReset = none) (hp2 : s.pendingBranchReset = none)
    (hl : startsWith line b!"data " = true) (hh : parseDataHeader line = some n)
    (hr : readExact n inp = some (payload, rest)) (hk : blobStripped o s n = false) :
    ∃ s', step o s line inp fuel = .cont s' rest ∧ s'.oversizeMarks = s.oversizeMarks ∧ s.out <+: s'.out := by
  obtain ⟨s', h1, h2, _, _, h5⟩ := blob_data_kept o s line inp payload rest n fuel hs hb hc hp1 hp2 hl hh hr hk
  exact ⟨s', h1, h5, by rw [h2]; exact List.prefix_append _ _⟩

/-- the decision itself: strictly above `--max-blob-size`, or the id is in the list -/
theorem strip_decision (o : FOpts) (s : FState) (n : Nat) :
    blobStripped o s n = true ↔
      (∃ mx, o.maxBlob = some mx ∧ mx < n) ∨ (∃ sha, s.lastBlobSha = some sha ∧ stripContains o.stripIds sha = true) := by
  unfold blobStripped
  cases o.maxBlob <;> cases s.lastBlobSha <;> simp

/-- **a blob named by its object id is stripped by size whatever the id's length**: under `--no-data` the `M` line carries an
    object id; if it is a SHA-1 (40 digits) or a SHA-256 (64 digits) id of a blob above the limit, the line is replaced by a
    deletion. (Before the repair recorded as N19 only 40-digit ids were looked up, so nothing was stripped by size in a
    SHA-256 repository.) -/
theorem oversize_by_id_dropped (o : FOpts) (s : FState) (f : MFields) (hid : isObjectId f.id = true)
    (hm : o.maxBlob.isSome = true) (ho : o.shaOversize f.id = true) : mShouldDrop o s f = true := by
  unfold mShouldDrop
  cases hf : f.id with
  | nil => simp [isObjectId, hf] at hid
  | cons c digits =>
    rw [hf] at hid ho
    have hx : isHexDigit c = true := by
      simp only [isObjectId, List.all_cons, Bool.and_eq_true] at hid; exact hid.2.1
    have hc : (c == B.colon) = false := beq_false_of_class hx (by decide)
    simp [hc, hid, hm, ho]

example : isObjectId (List.replicate 64 0x61) = true ∧ isObjectId (List.replicate 40 0x61) = true ∧
    isObjectId (List.replicate 41 0x61) = false := by decide +kernel

/-! ### the limit as typed on the command line (opts.rs `parse_max_blob_size`) -/

/-- **the limit is the number typed**: `--max-blob-size N` is a limit of N bytes, for every N a u64 holds -/
theorem limit_plain (n : Nat) (hn : n ≤ u64Max) : parseMaxBlobSize (natToDec n) = some n := by
  obtain ⟨hne, hd, hv⟩ := natToDec_digits n
  rw [parseMaxBlobSize_digits _ hne hd (hv.symm ▸ hn), hv]

/-- **K, M and G are powers of 1024**, upper or lower case, for every number whose product fits -/
theorem limit_suffix (n : Nat) (sfx : UInt8) (mult : Nat)
    (hs : (sfx, mult) ∈ [((0x4b : UInt8), 1024), (0x6b, 1024), (0x4d, 1024 * 1024), (0x6d, 1024 * 1024),
                          (0x47, 1024 * 1024 * 1024), (0x67, 1024 * 1024 * 1024)])
    (hn : n * mult ≤ u64Max) : parseMaxBlobSize (natToDec n ++ [sfx]) = some (n * mult) := by
  obtain ⟨hne, hd, hv⟩ := natToDec_digits n
  rw [parseMaxBlobSize_suffix _ sfx mult hne hd hs (hv.symm ▸ hn), hv]

/-- any other trailing letter is refused rather than ignored -/
theorem limit_other_letter_refused (s : Bytes) (c : UInt8) (ha : isAlpha c = true)
    (hk : upperA c ≠ 0x4b) (hm : upperA c ≠ 0x4d) (hg : upperA c ≠ 0x47) : parseMaxBlobSize (s ++ [c]) = none := by
  simp [parseMaxBlobSize, hk, hm, hg, ha]

-- tests (concrete values, not the claim): underscores, overflow, the empty value
example : parseMaxBlobSize b!"1_000" = some 1000 := by decide +kernel
example : parseMaxBlobSize b!"10m" = some 10485760 := by decide +kernel
example : parseMaxBlobSize b!"17179869184G" = none := by decide +kernel     -- 2^34 · 2^30 = 2^64
example : parseMaxBlobSize b!"" = none ∧ parseMaxBlobSize b!"K" = none ∧ parseMaxBlobSize b!"5T" = none := by decide +kernel

/-- a limit of zero bytes (which would strip every non-empty blob and is almost certainly a typo) is refused -/
theorem zero_limit_refused (o : FOpts) (nd : Bool) : validOptions { o with maxBlob := some 0 } nd = false := by
  simp [validOptions]

/-- the tool switches the exporter to `--no-data` on its own only when it writes back into the repository it reads —
    elsewhere the target has no object store to look sizes and ids up in (model of pipes.rs, Frrs/Pipes.lean) -/
theorem auto_no_data_only_in_place (o : Cli.CliOpts) (h : Pipes.samePath o.source o.target = false) : Pipes.autoNoData o = false := by
  unfold Pipes.autoNoData
  simp [h]

/-- a size limit of zero (or all ones) never reaches the filter: whatever else is on the command line, `validate_options`
    refuses the option set and the line is dispatched to `refused` (or to a scan mode, which does not filter) -/
theorem zero_limit_never_filters (o : Cli.CliOpts) (h : o.maxBlob = some 0 ∨ o.maxBlob = some 18446744073709551615) :
    Pipes.dispatch o ≠ .filter := by
  have hv : Pipes.validCli o = false := by
    unfold Pipes.validCli
    rcases h with h | h <;> simp [h]
  exact fun hd => Bool.false_ne_true (hv ▸ (Pipes.dispatch_eq_filter.1 hd).2.2)

end Frrs.C06
