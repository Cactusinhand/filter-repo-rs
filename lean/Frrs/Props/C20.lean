/-
  C20 — `--detect-secrets` reports only real occurrences and its output closes the loop.

  Regex matching is a parameter of the model (the regex crate is not modelled): the scan hands over the matched
  (or captured) byte strings `ms` in scan order, each of which is by the regex contract a substring of the blob it
  was found in. Proved here, for every input:
  * `normalize_sound`      — a reported value is a substring of the matched bytes (hence of the blob);
  * `normalize_shape`      — it has 8–256 bytes, no whitespace, is valid UTF-8;
  * `detect_sound`         — every value in the result is the normal form of some match;
  * `detect_nodup`, `detect_cap` — no value twice, at most 500;
  * `detect_complete`      — while fewer than 500 values have been found, every match with a normal form is reported;
  * `draft_rule_parses`    — a value that needs no escaping is read back by the `--replace-text` parser as the rule
                             value ==> ***REMOVED***; with C07.literal_gone: after applying it the value is gone;
  * `escape_needed_*`      — the values that do need escaping (leading `#`, `regex:`/`glob:` prefix, embedded `==>`)
                             would NOT be read back as that rule (this was finding N9, fixed in a9438df);
  * `detect_read_only`     — (extracted tables) everything reachable from detect.rs runs only non-mutating git
                             commands and the single filesystem write is the draft file.
-/
import Frrs.Detect
import Frrs.Extracted
import Frrs.Props.C07
namespace Frrs.C20
open Frrs.Pipe

/-! ### read-only -/

theorem detect_read_only :
    readOnlyClosure Extracted.moduleCalls Extracted.gitCommands Extracted.fsWriteSites .detect [(.detect, 1)] = true := by
  -- the call graph is shallow: the closure is complete after three rounds (after one, for the table as it is), and the
  -- kernel is spared the other eighteen; should it ever not be, the statement is evaluated as it stands
  first
  | (have h := reach_of_fix Extracted.moduleCalls 3 [.detect] (by decide +kernel) 21 (by decide)
     unfold readOnlyClosure reachable
     rw [h]
     decide +kernel)
  | decide +kernel

theorem detect_closure :
    (∀ c ∈ Extracted.gitCommands, c.file ∈ reachable Extracted.moduleCalls .detect → c.mutates = false) :=
  (readOnlyClosure_sound detect_read_only).2

/-- `run` leaves through detect before anything of the filtering pipeline is reached: it is the first event -/
theorem detect_first : Extracted.runEvents.head? = some (.call .detectRun [.other]) := by decide +kernel

/-- the cap of the model is the cap of the code, and the pattern table is the audited one (extracted on every run) -/
theorem cap_is_the_codes : constOf Extracted.consts .maxDetectedValues = some maxDetected := by decide +kernel

theorem secret_patterns_audited : Extracted.secretPatterns = auditedSecretPatterns := by decide +kernel

/-! ### soundness of a single value -/

theorem trimMatches_infix (c : UInt8) (s : Bytes) : trimMatches c s <:+: s := by
  unfold trimMatches
  have h : ((s.dropWhile (· == c)).reverse.dropWhile (· == c)).reverse <+: (s.dropWhile (· == c)).reverse.reverse :=
    List.reverse_prefix.mpr (List.dropWhile_suffix _)
  rw [List.reverse_reverse] at h
  exact h.isInfix.trans (List.dropWhile_suffix _).isInfix

/-- the guards a reported value has passed (all but those on UTF-8 and on placeholders, which nothing below needs) -/
theorem normalize_eq_some {m v : Bytes} (h : normalizeDetected m = some v) :
    v = trimMatches 0x27 (trimMatches 0x22 m) ∧ 8 ≤ v.length ∧ v.length ≤ 256 ∧
      ∀ b ∈ m, b ≠ B.lf ∧ b ≠ B.cr ∧ b ≠ B.tab ∧ b ≠ B.sp := by
  revert h
  fun_cases normalizeDetected m
  case case6 _ hws _ v' hlen _ _ =>
    intro h
    obtain rfl := Option.some.inj h
    simp only [Bool.or_eq_true, decide_eq_true_eq, not_or, Nat.not_lt] at hlen
    simp only [List.any_eq_true, Bool.or_eq_true, beq_iff_eq, not_exists, not_and, not_or, and_assoc] at hws
    exact ⟨rfl, hlen.1, hlen.2, hws⟩
  all_goals nofun

/-- **nothing is fabricated**: the value reported for a match occurs verbatim in the matched bytes -/
theorem normalize_sound (m v : Bytes) (h : normalizeDetected m = some v) : v <:+: m :=
  (normalize_eq_some h).1 ▸ (trimMatches_infix _ _).trans (trimMatches_infix _ _)

theorem infix_all {p : UInt8 → Bool} {a b : Bytes} (h : a <:+: b) (hb : b.all p = true) : a.all p = true :=
  List.all_eq_true.mpr fun x hx => List.all_eq_true.mp hb x (h.subset hx)

/-- shape of a reported value: 8–256 bytes, no blank, tab, CR or LF -/
theorem normalize_shape (m v : Bytes) (h : normalizeDetected m = some v) :
    8 ≤ v.length ∧ v.length ≤ 256 ∧ ∀ b ∈ v, b ≠ B.lf ∧ b ≠ B.cr ∧ b ≠ B.tab ∧ b ≠ B.sp :=
  have ⟨_, h8, h256, hws⟩ := normalize_eq_some h
  ⟨h8, h256, fun b hb => hws b ((normalize_sound m v h).subset hb)⟩

/-! ### the collection step -/

/-- what `collectDetections` returns as `r` when it starts with `acc` collected and the matches still to come
    normalise to the values `vs` -/
structure Collected (vs acc r : List Bytes) : Prop where
  pre : acc.reverse <+: r
  nodup : r.Nodup
  cap : r.length ≤ maxDetected
  sound : r ⊆ acc ++ vs
  complete : r.length < maxDetected → vs ⊆ r

theorem Collected.length_le {vs acc r : List Bytes} (h : Collected vs acc r) : acc.length ≤ r.length :=
  List.length_reverse ▸ h.pre.length_le

/-- one more value that is not collected, because it was seen before or because the cap is reached -/
theorem Collected.skip {vs acc r : List Bytes} {v : Bytes} (h : Collected vs acc r)
    (hv : r.length < maxDetected → v ∈ r) : Collected (v :: vs) acc r :=
  { h with
    sound := fun _ hw => List.perm_middle.mem_iff.mpr (List.mem_cons_of_mem v (h.sound hw))
    complete := fun hl => List.cons_subset.mpr ⟨hv hl, h.complete hl⟩ }

/-- `seen` holds what was collected and, from the moment the cap is reached, also what the cap turned away -/
theorem collect_spec (ms seen acc : List Bytes) (h1 : acc ⊆ seen) (h2 : acc.length < maxDetected → seen ⊆ acc)
    (hnd : acc.Nodup) (hle : acc.length ≤ maxDetected) :
    Collected (ms.filterMap normalizeDetected) acc (collectDetections ms seen acc) := by
  fun_induction collectDetections ms seen acc with
  | case1 seen acc =>
    exact ⟨List.prefix_refl _, List.pairwise_reverse.mpr (hnd.imp Ne.symm), List.length_reverse.symm ▸ hle,
      fun _ hv => List.mem_append_left _ (List.mem_reverse.mp hv), fun _ => List.nil_subset _⟩
  | case2 m rest seen acc hnone ih =>                               -- the match normalises to nothing
    rw [List.filterMap_cons_none hnone]
    exact ih h1 h2 hnd hle
  | case3 m rest seen acc v hsome hseen ih =>                       -- seen before
    rw [List.filterMap_cons_some hsome]
    have ih := ih h1 h2 hnd hle
    refine ih.skip fun hl => ih.pre.subset (List.mem_reverse.mpr ?_)
    exact h2 (Nat.lt_of_le_of_lt ih.length_le hl) (List.contains_iff_mem.mp hseen)
  | case4 m rest seen acc v hsome hseen hcap ih =>                  -- new, but the cap is reached
    rw [List.filterMap_cons_some hsome]
    have ih := ih (List.subset_cons_of_subset v h1) (fun hl => absurd hl (Nat.not_lt.mpr hcap)) hnd hle
    exact ih.skip fun hl => absurd hl (Nat.not_lt.mpr (Nat.le_trans hcap ih.length_le))
  | case5 m rest seen acc v hsome hseen hcap ih =>                  -- new and collected
    rw [List.filterMap_cons_some hsome]
    have hcap := Nat.lt_of_not_le hcap
    have hv : v ∉ acc := fun h => hseen (List.contains_iff_mem.mpr (h1 h))
    have ih := ih (List.cons_subset_cons v h1) (fun _ => List.cons_subset_cons v (h2 hcap))
      (List.nodup_cons.mpr ⟨hv, hnd⟩) hcap
    have hpre : acc.reverse ++ [v] <+: collectDetections rest (v :: seen) (v :: acc) := List.reverse_cons ▸ ih.pre
    refine ⟨(List.prefix_append _ _).trans hpre, ih.nodup, ih.cap, fun _ hw => List.perm_middle.mem_iff.mpr (ih.sound hw),
      fun hl => ?_⟩
    exact List.cons_subset.mpr ⟨hpre.subset (List.mem_append_right _ (List.mem_singleton_self v)), ih.complete hl⟩

theorem detect_spec (ms : List Bytes) : Collected (ms.filterMap normalizeDetected) [] (detect ms) :=
  collect_spec ms [] [] (List.Subset.refl _) (fun _ => List.Subset.refl _) .nil (Nat.zero_le _)

/-- every reported value is the normal form of a match -/
theorem detect_sound (ms : List Bytes) (v : Bytes) (h : v ∈ detect ms) : ∃ m ∈ ms, normalizeDetected m = some v ∧ v <:+: m :=
  have ⟨m, hm, hv⟩ := List.mem_filterMap.mp ((detect_spec ms).sound h)
  ⟨m, hm, hv, normalize_sound m v hv⟩

theorem detect_nodup (ms : List Bytes) : (detect ms).Nodup := (detect_spec ms).nodup

theorem detect_cap (ms : List Bytes) : (detect ms).length ≤ 500 := (detect_spec ms).cap

/-- **completeness while under the cap** -/
theorem detect_complete (ms : List Bytes) (hl : (detect ms).length < 500) (m v : Bytes) (hm : m ∈ ms)
    (hv : normalizeDetected m = some v) : v ∈ detect ms :=
  (detect_spec ms).complete hl (List.mem_filterMap.mpr ⟨m, hm, hv⟩)

/-! ### closing the loop: the draft rule is read back as the rule that removes the value -/

/-- The arrow is not a prefix of `v ++ "==>" ++ rest` unless it is one of `v`: its last byte differs from its other
    two, so a copy that begins in `v` and ends in the arrow that follows would have `>` where that arrow has `=`. -/
theorem no_arrow_prefix (b : UInt8) (t rest : Bytes) (h : ¬ Occurs arrow (b :: t)) :
    stripPrefix? (b :: (t ++ arrow ++ rest)) arrow = none := by
  refine Option.eq_none_iff_forall_ne_some.mpr fun r hs => ?_
  have e := stripPrefix?_eq_some.1 hs
  rcases t with _ | ⟨c, _ | ⟨d, t'⟩⟩
  -- `v` has one byte or two: the third byte of the line is `=`
  iterate 2
    injection e with _ e; injection e with _ e; injection e with e _
    exact absurd e (by decide)
  -- otherwise the first three bytes of `v` are the arrow
  injection e with h1 e; injection e with h2 e; injection e with h3 _
  subst h1 h2 h3
  exact h ⟨[], t', rfl⟩

theorem findSub_arrow_first (v rest : Bytes) (h : ¬ Occurs arrow v) :
    findSub arrow (v ++ arrow ++ rest) = some (v, rest) := by
  induction v with
  | nil => simp [arrow, findSub, stripPrefix?]
  | cons b t ih =>
    show findSub arrow (b :: (t ++ arrow ++ rest)) = some (b :: t, rest)
    rw [findSub, no_arrow_prefix b t rest h, ih fun ho => h (occurs_of_tail b ho)]

/-- **the loop closes** for every value that needs no escaping: the line written for it is parsed back as the
    literal rule value ==> ***REMOVED*** (values are at least 8 bytes long by `normalize_shape`) -/
theorem draft_rule_parses (v : Bytes) (hlen : 8 ≤ v.length) (hesc : needsEscape v = false) :
    parseLiteralLine (draftRule v) = some (v, removedToken) := by
  simp only [needsEscape, Bool.or_eq_false_iff] at hesc
  obtain ⟨⟨⟨h1, h2⟩, h3⟩, h4⟩ := hesc
  have hocc : ¬ Occurs arrow v := findSub_none (by simpa [isInfix] using h2)
  -- the three keywords are shorter than `v`, so they are looked for in `v` alone
  have pre (p : Bytes) (hp : p.length ≤ 8) : startsWith (v ++ arrow ++ removedToken) p = startsWith v p := by
    rw [List.append_assoc]; exact startsWith_append_of_le (Nat.le_trans hp hlen)
  obtain ⟨a, t, rfl⟩ := List.exists_cons_of_length_pos (Nat.lt_of_lt_of_le (by decide) hlen)
  unfold parseLiteralLine draftRule
  rw [pre [B.hash] (by decide), pre b!"regex:" (by decide), pre b!"glob:" (by decide), h1, h3, h4,
    findSub_arrow_first _ removedToken hocc]
  rfl

/-- … and applying that rule removes the value from every input (C07.literal_gone; `compat` holds for every
    value over the detector's alphabets, it is a decidable side condition evaluated by the check) -/
theorem loop_closes (v h : Bytes) (hlen : 8 ≤ v.length) (hesc : needsEscape v = false)
    (hc : compat v removedToken = true) :
    ∃ rule, parseLiteralLine (draftRule v) = some rule ∧ ¬ Occurs rule.1 (replaceAll h rule.1 rule.2) ∧ rule.1 = v := by
  have hne : v ≠ [] := List.ne_nil_of_length_pos (Nat.lt_of_lt_of_le (by decide) hlen)
  exact ⟨(v, removedToken), draft_rule_parses v hlen hesc, C07.literal_gone h v removedToken hne hc, rfl⟩

/-- why the escape exists (finding N9): written literally, these values are not read back as their rule -/
theorem escape_needed_hash (t : Bytes) : parseLiteralLine (draftRule (B.hash :: t)) = none := C05.rule_comment _

theorem escape_needed_regex (t : Bytes) : parseLiteralLine (draftRule (b!"regex:" ++ t)) = none := C05.rule_regex_skipped _

theorem escape_needed_glob (t : Bytes) : parseLiteralLine (draftRule (b!"glob:" ++ t)) = none := C05.rule_glob_skipped _

/-- an embedded `==>` makes the parser cut the value short -/
example : parseLiteralLine (draftRule b!"pass==>word1") = some (b!"pass", b!"word1==>***REMOVED***") := by decide +kernel

/-! ### the statements are not vacuous -/

example : normalizeDetected b!"\"ghp_0123456789abcdef\"" = some b!"ghp_0123456789abcdef" := by decide +kernel
example : normalizeDetected b!"changeme1234" = none := by decide +kernel
example : detect [b!"'tokenvalue1'", b!"short", b!"tokenvalue1", b!"tokenvalue2"] = [b!"tokenvalue1", b!"tokenvalue2"] := by decide +kernel
example : needsEscape b!"ghp_0123456789abcdef" = false ∧ compat b!"ghp_0123456789abcdef" removedToken = true := by decide +kernel

end Frrs.C20
