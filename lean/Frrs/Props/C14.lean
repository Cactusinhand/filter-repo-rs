/-
  C14 — After a run HEAD names a live branch and index and work tree match it.
  Logic (this file): the HEAD decision of finalize(). Order (HEAD is final *before*
  `git reset --hard`, so index and work tree are reset onto the final branch) is an obligation
  over the extracted step table (`head_before_reset`, at the end). `reset --hard` itself is git's.
  This decision logic is inline code of finalize(); it is modelled by hand and validated end to
  end (HEAD symref, its existence, `git status` clean on every generated run).
-/
import Frrs.Proofs.OldNames
import Frrs.Extracted
namespace Frrs.C14

/-- **HEAD follows its branch under its new name** whenever the renamed branch exists -/
theorem head_follows_rename (h n : Bytes) (refsAfter : List Bytes) (br : Option (Bytes × Bytes))
    (upd : List Bytes) (hr : renameIn refsHeads br h = some n) (hex : refsAfter.contains n = true)
    (hne : n ≠ h) (hnn : n ≠ []) :
    headTarget (some h) refsAfter br upd = some n := by
  have hrn : renamedHead h refsAfter br = some n := by simp only [renamedHead, hr, hex, if_true]
  simp only [headTarget, hrn, mustRetarget, bne_iff_ne.2 hne, Bool.true_or, if_true, headFallback, nonEmptyName,
    List.isEmpty_eq_false_iff.2 hnn, Bool.false_eq_true, if_false]

/-- **an unrenamed, still existing branch keeps HEAD** (no symbolic-ref is run) -/
theorem head_stays (h : Bytes) (refsAfter : List Bytes) (br : Option (Bytes × Bytes)) (upd : List Bytes)
    (hr : renameIn refsHeads br h = none) (hex : refsAfter.contains h = true) :
    headTarget (some h) refsAfter br upd = none := by
  have hrn : renamedHead h refsAfter br = none := by simp only [renamedHead, hr]
  simp only [headTarget, hrn, mustRetarget, hex, Bool.not_true, Bool.or_self, Bool.false_eq_true, if_false]

/-- a rename onto the same name changes nothing -/
theorem head_same_name (h : Bytes) (refsAfter : List Bytes) (br : Option (Bytes × Bytes)) (upd : List Bytes)
    (hr : renameIn refsHeads br h = some h) (hex : refsAfter.contains h = true) :
    headTarget (some h) refsAfter br upd = none := by
  have hrn : renamedHead h refsAfter br = some h := by simp only [renamedHead, hr, hex, if_true]
  simp only [headTarget, hrn, mustRetarget, bne_self_eq_false, hex, Bool.not_true, Bool.or_self, Bool.false_eq_true,
    if_false]

theorem minName_mem : ∀ (l : List Bytes) (m : Bytes), minName l = some m → m ∈ l := OldNames.minName_mem

/-- whatever target is chosen for an attached HEAD (when the stream updated no branch), it is a
    name that exists after the import -/
theorem head_target_is_live (h t : Bytes) (refsAfter : List Bytes) (br : Option (Bytes × Bytes))
    (hk : headTarget (some h) refsAfter br [] = some t) : refsAfter.contains t = true := by
  simp only [headTarget] at hk
  split at hk
  · -- `nonEmptyName` only filters, so the target is what `headFallback` chose:
    have hf : headFallback (renamedHead h refsAfter br) [] refsAfter = some t := by
      unfold nonEmptyName at hk
      split at hk
      · split at hk <;> cases hk; assumption
      · cases hk
    -- the renamed branch, which `renamedHead` has looked up, or the least of the existing branches
    unfold headFallback at hf
    split at hf
    · next n hrn =>
      cases hf
      unfold renamedHead at hrn
      split at hrn
      · split at hrn <;> cases hrn; assumption
      · cases hrn
    · exact List.contains_iff_mem.2 (List.mem_filter.1 (minName_mem _ _ hf)).1
  · cases hk

/-- chained renames: an old name that is also a new name is never deleted -/
theorem chained_old_name_kept (renames : List (Bytes × Bytes)) (refsBefore : List Bytes) (old : Bytes)
    (h : ∃ p ∈ renames, p.2 = old) : old ∉ deletedOldNames renames refsBefore :=
  fun hm => let ⟨p, hp, hpe⟩ := h; (OldNames.mem_deletedOldNames.1 hm).2.1 p hp hpe

/-! ### non-vacuity -/

example : headTarget (some b!"refs/heads/main") [b!"refs/heads/trunk"] (some (b!"main", b!"trunk")) [b!"refs/heads/trunk"]
    = some b!"refs/heads/trunk" := by decide +kernel
/-- chained rename `ma:main` with branches `ma` and `main`: HEAD on `main` moves to `mainin` -/
example : headTarget (some b!"refs/heads/main") [b!"refs/heads/main", b!"refs/heads/mainin"] (some (b!"ma", b!"main")) []
    = some b!"refs/heads/mainin" := by decide +kernel
example : deletedOldNames [(b!"refs/heads/ma", b!"refs/heads/main"), (b!"refs/heads/main", b!"refs/heads/mainin")]
    [b!"refs/heads/ma", b!"refs/heads/main"] = [b!"refs/heads/ma"] := by decide +kernel

/-! ### order: obligation over the step table extracted from /repo on this run -/
open Frrs.Pipe in
/-- **HEAD is final before `git reset --hard`**: every `symbolic-ref HEAD <target>` of finalize()
    precedes the hard reset, so index and work tree are reset onto the final branch -/
theorem head_before_reset : HeadBeforeReset Extracted.finalizeEvents = true := by decide +kernel

end Frrs.C14
