/-
  C17 — every mode terminates, whatever the repository size or subprocess pacing.

  Proved here, for every size, every pipe capacity ≥ 1 and every schedule (any relative speed of the processes):
  * main loop: `run_terminates` — the filtering loop consumes at least one byte per iteration and is never ended by
    its fuel bound (Frrs.Proofs.Loop);
  * request/reply children: `exec_length` (an execution is as long as the `work` it did, hence at most the `work` of its
    first state: `exec_bounded`), `threaded_deadlock_free`,
    `lockstep_deadlock_free` (in every non-final state some process can move), hence every maximal execution ends
    in the final state; and the two negative results that explain the findings: `writeAll_never_completes`
    (write-all-then-read cannot finish once (n − A − 1)·r > B: finding F2) with `writeAll_small_live` (and is fine
    while everything fits the reply pipe: why no test saw it);
  * read-then-wait: `earlyBreak_never_exits` (finding F7) and `drain_deadlock_free`;
  * exporter → tool → importer with the lock-step `get-mark`: `chain_deadlock_free`, `cexec_length`;
  * `both_piped_audited` — (table extracted from /repo on every run) the children with both pipes open are exactly
    the audited ones with the audited policy (threaded / lock-step / chain).
  What the model cannot exhibit: the OS scheduler, real pipe sizes and git's own behaviour; the check sweeps the
  real binary across the pipe-buffer boundaries under a pacing shim with a wall-clock bound.
-/
import Frrs.Proofs.PipeModel
import Frrs.Proofs.Loop
import Frrs.Extracted
namespace Frrs.C17
open Frrs.PipeM

/-! ### the main loop -/

theorem run_terminates (o : FOpts) (inp : Bytes) (k : Nat) : loop o (inp.length + 1 + k) {} inp = runBytes o inp :=
  run_fuel_irrelevant o inp k

/-! ### request/reply child -/

theorem step_measure (c : Cfg) (s : St) (a : Act) (h : enabled c s a = true) :
    work c (apply c s a) + 1 = work c s := by
  cases a with
  | pw =>
    have h1 := pred_mul_add (enabled_pw.1 h).1 (2 * c.r + 2)
    dsimp only [work, apply]
    rw [← h1, Nat.add_one_mul s.reqBuf]; simp +arith only
  | cr =>
    obtain ⟨hq, ho⟩ := enabled_cr.1 h
    have h1 := pred_mul_add hq (2 * c.r + 1)
    dsimp only [work, apply]
    rw [← h1, ho]; simp +arith only
  | cw =>
    dsimp only [work, apply]
    rw [← pred_mul_add (enabled_cw.1 h).1 2]; simp +arith only
  | pr =>
    dsimp only [work, apply]
    rw [Nat.add_assoc, Nat.sub_add_cancel (enabled_pr.1 h).1]

/-- every execution is finite: its length is exactly the work it did -/
theorem exec_length (c : Cfg) : ∀ (as : List Act) (s t : St), exec c s as = some t → as.length + work c t = work c s :=
  fun as s _ h => run_length (P := fun _ => True) (work c) trivial (fun s a _ he => ⟨trivial, step_measure c s a he⟩)
    (exec_eq_run c s as ▸ h)

/-- hence no schedule runs for more than `n·(2r+2)` steps -/
theorem exec_bounded (c : Cfg) (n : Nat) (as : List Act) (t : St) (h : exec c (init n) as = some t) :
    as.length ≤ n * (2 * c.r + 2) := by
  have := exec_length c as _ _ h
  simp only [work, init, Nat.zero_mul, Nat.add_zero] at this
  exact Nat.le.intro this

/-- Unless the parent writes everything first it reads a reply whenever there is one, so the unit nearest the end of
    the round trip parent → child → parent can always move. -/
theorem live_of_ne_writeAll (c : Cfg) (hp : c.pol ≠ .writeAll) (hA : 1 ≤ c.A) (hB : 1 ≤ c.B) (s : St)
    (hf : final s = false) : ∃ a, enabled c s a = true := by
  have hf := final_eq_false.1 hf
  by_cases h1 : s.repBuf > 0
  · exact ⟨.pr, enabled_pr.2 ⟨h1, fun h => absurd h hp⟩⟩
  · by_cases h2 : s.childOut > 0
    · exact ⟨.cw, enabled_cw.2 ⟨h2, by omega⟩⟩
    · by_cases h3 : s.reqBuf > 0
      · exact ⟨.cr, enabled_cr.2 ⟨h3, by omega⟩⟩
      · refine ⟨.pw, enabled_pw.2 ⟨by omega, by omega, fun _ => ?_⟩⟩
        rw [pending, Nat.eq_zero_of_not_pos h3, Nat.zero_mul]; omega

/-- **threaded writer**: in every non-final state some process can move -/
theorem threaded_deadlock_free (c : Cfg) (hp : c.pol = .threaded) (hA : 1 ≤ c.A) (hB : 1 ≤ c.B) (s : St)
    (hf : final s = false) : ∃ a, enabled c s a = true :=
  live_of_ne_writeAll c (hp ▸ nofun) hA hB s hf

/-- **lock-step** (one request, then its whole reply): likewise -/
theorem lockstep_deadlock_free (c : Cfg) (hp : c.pol = .lockstep) (hA : 1 ≤ c.A) (hB : 1 ≤ c.B) (s : St)
    (hf : final s = false) : ∃ a, enabled c s a = true :=
  live_of_ne_writeAll c (hp ▸ nofun) hA hB s hf

/-- consequence for both: a maximal execution (one that cannot be extended) ends in the final state -/
theorem maximal_is_final (c : Cfg) (hp : c.pol = .threaded ∨ c.pol = .lockstep) (hA : 1 ≤ c.A) (hB : 1 ≤ c.B)
    (s : St) (hmax : ∀ a, enabled c s a = false) : final s = true := by
  cases hf : final s with
  | true => rfl
  | false =>
    obtain ⟨a, ha⟩ := live_of_ne_writeAll c (fun hw => nomatch hw ▸ hp) hA hB s hf
    rw [hmax a] at ha; cases ha

/-! ### write-all-then-read (finding F2) -/

/-- the write-all parent: requests and replies are conserved, the three buffers stay within their capacities, and
    no reply is read while a request is still to be sent -/
structure WInv (c : Cfg) (n : Nat) (s : St) : Prop where
  conserve : s.toSend + s.reqBuf + s.consumed = n
  replies : s.consumed * c.r = s.childOut + s.repBuf + s.received
  reqCap : s.reqBuf ≤ c.A
  repCap : s.repBuf ≤ c.B
  outCap : s.childOut ≤ c.r
  noRead : s.toSend > 0 → s.received = 0

theorem winv_init (c : Cfg) (n : Nat) : WInv c n (init n) :=
  ⟨rfl, Nat.zero_mul _, Nat.zero_le _, Nat.zero_le _, Nat.zero_le _, fun _ => rfl⟩

/-- each action moves one unit one stage on: only the facts about the two stages it touches need an argument -/
theorem winv_step (c : Cfg) (hp : c.pol = .writeAll) (n : Nat) (s : St) (a : Act) (hi : WInv c n s)
    (he : enabled c s a = true) : WInv c n (apply c s a) := by
  have h1 := hi.conserve
  have h2 := hi.replies
  cases a with
  | pw =>
    obtain ⟨hs, hq, _⟩ := enabled_pw.1 he
    exact { hi with conserve := by dsimp only [apply]; omega, reqCap := hq, noRead := fun _ => hi.noRead hs }
  | cr =>
    obtain ⟨hq, ho⟩ := enabled_cr.1 he
    exact { hi with
      conserve := by dsimp only [apply]; omega
      replies := by dsimp only [apply]; rw [Nat.add_one_mul]; omega
      reqCap := Nat.le_trans (Nat.sub_le _ _) hi.reqCap
      outCap := Nat.le_refl _ }
  | cw =>
    obtain ⟨ho, hb⟩ := enabled_cw.1 he
    exact { hi with
      replies := by dsimp only [apply]; omega
      repCap := hb
      outCap := Nat.le_trans (Nat.sub_le _ _) hi.outCap }
  | pr =>
    obtain ⟨hb, hs⟩ := enabled_pr.1 he
    exact { hi with
      replies := by dsimp only [apply]; omega
      repCap := Nat.le_trans (Nat.sub_le _ _) hi.repCap
      noRead := fun h => absurd (hs hp) (Nat.ne_of_gt h) }

/-- **write-all-then-read cannot finish** once the replies of the requests that do not fit the request pipe exceed
    the reply pipe: under EVERY schedule the parent never gets its last request out, so no reachable state is
    final; with `exec_bounded` every execution ends, after finitely many steps, in a deadlock.
    (64 KiB pipes, 41-byte requests, ~55-byte replies: A ≈ 1598, B/r ≈ 1190 — the hang "at roughly 2900 objects".) -/
theorem writeAll_never_completes (c : Cfg) (hp : c.pol = .writeAll) (n : Nat)
    (hbig : (n - c.A - 1) * c.r > c.B) (hn : n > c.A + 1) :
    ∀ (as : List Act) (t : St), exec c (init n) as = some t → t.toSend > 0 ∧ final t = false := by
  intro as t h
  suffices ht : t.toSend > 0 from ⟨ht, final_eq_false.2 fun hz => Nat.ne_of_gt ht hz.1⟩
  refine (run_inv (P := fun s => WInv c n s ∧ s.toSend > 0) ⟨winv_init c n, Nat.zero_lt_of_lt hn⟩ ?_
    (exec_eq_run .. ▸ h)).2
  intro s a ⟨hi, hs⟩ he
  refine ⟨winv_step c hp n s a hi he, ?_⟩
  cases a with
  | pw =>
    -- No reply has been read, so those to the requests the child consumed are with the child or in the reply pipe,
    -- at most r + B units: it consumed at most n − A − 1. Fewer than A requests are in the pipe, so this one is not
    -- the last.
    obtain ⟨_, hq, _⟩ := enabled_pw.1 he
    obtain ⟨h1, h2, _, h4, h5, h6⟩ := hi
    have h6 := h6 hs
    have : s.consumed < n - c.A - 1 + 1 := Nat.lt_of_mul_lt_mul_right (a := c.r) (by rw [Nat.add_one_mul]; omega)
    show s.toSend - 1 > 0
    omega
  | cr | cw | pr => exact hs

/-- … while it is deadlock-free as long as all replies fit the reply pipe — the regime of every test fixture -/
theorem writeAll_small_live (c : Cfg) (hp : c.pol = .writeAll) (n : Nat) (hA : 1 ≤ c.A) (hsmall : n * c.r ≤ c.B)
    (as : List Act) (t : St) (h : exec c (init n) as = some t) (hf : final t = false) :
    ∃ a, enabled c t a = true := by
  obtain ⟨h1, h2, _, _, _, _⟩ := run_inv (winv_init c n) (winv_step c hp n) (exec_eq_run .. ▸ h)
  have hfit : t.childOut + t.repBuf ≤ c.B := by
    have := Nat.mul_le_mul_right c.r (h1 ▸ Nat.le_add_left .. : t.consumed ≤ n)
    omega
  -- so the child is never blocked writing; when it is idle, the request pipe is empty and the parent can move
  by_cases ho : t.childOut > 0
  · exact ⟨.cw, enabled_cw.2 ⟨ho, by omega⟩⟩
  · have ho := Nat.eq_zero_of_not_pos ho
    by_cases hq : t.reqBuf > 0
    · exact ⟨.cr, enabled_cr.2 ⟨hq, ho⟩⟩
    · by_cases hs : t.toSend > 0
      · exact ⟨.pw, enabled_pw.2 ⟨hs, by omega, fun h => nomatch hp.symm.trans h⟩⟩
      · have := final_eq_false.1 hf
        exact ⟨.pr, enabled_pr.2 ⟨by omega, fun _ => Nat.eq_zero_of_not_pos hs⟩⟩

/-! ### read up to a limit, then wait (finding F7) -/

/-- what the child has left, the pipe holds and the parent has read add up to the total; the pipe and the limit bound -/
theorem dinv (c : DCfg) (as : List DAct) (t : DSt) (h : dexec c (dinit c) as = some t) :
    t.childLeft + t.buf + t.read = c.total ∧ t.buf ≤ c.B ∧ t.read ≤ c.limit := by
  refine run_inv (P := fun s => s.childLeft + s.buf + s.read = c.total ∧ s.buf ≤ c.B ∧ s.read ≤ c.limit)
    ⟨rfl, Nat.zero_le _, Nat.zero_le _⟩ ?_ (dexec_eq_run .. ▸ h)
  intro s a ⟨h1, h2, h3⟩ he
  cases a with
  | cw =>
    obtain ⟨hl, hb⟩ := denabled_cw.1 he
    exact ⟨by dsimp only [dapply]; omega, hb, h3⟩
  | pr =>
    obtain ⟨hb, hr⟩ := denabled_pr.1 he
    exact ⟨by dsimp only [dapply]; omega, Nat.le_trans (Nat.sub_le _ _) h2, hr⟩

/-- **stopping to read and then waiting never returns** when the child has more left than the pipe holds -/
theorem earlyBreak_never_exits (c : DCfg) (hbig : c.total > c.limit + c.B) (as : List DAct) (t : DSt)
    (h : dexec c (dinit c) as = some t) : dfinal t = false := by
  have := dinv c as t h
  exact beq_eq_false_iff_ne.2 (by omega)

/-- **reading to EOF is deadlock-free** -/
theorem drain_deadlock_free (c : DCfg) (hB : 1 ≤ c.B) (hl : c.limit = c.total) (as : List DAct) (t : DSt)
    (h : dexec c (dinit c) as = some t) (hf : dfinal t = false) : ∃ a, denabled c t a = true := by
  have := dinv c as t h
  have hf : t.childLeft ≠ 0 := beq_eq_false_iff_ne.1 hf
  by_cases hb : t.buf < c.B
  · exact ⟨.cw, denabled_cw.2 ⟨by omega, hb⟩⟩
  · exact ⟨.pr, denabled_pr.2 ⟨by omega, by omega⟩⟩

theorem dstep_measure (c : DCfg) (s : DSt) (a : DAct) (h : denabled c s a = true) : dwork (dapply s a) + 1 = dwork s := by
  cases a with
  | cw =>
    dsimp only [dwork, dapply]
    rw [← pred_mul_add (denabled_cw.1 h).1 2]; simp +arith only
  | pr =>
    dsimp only [dwork, dapply]
    rw [Nat.add_assoc, Nat.sub_add_cancel (denabled_pr.1 h).1]

/-! ### exporter → tool → importer with the lock-step query -/

theorem chain_deadlock_free (c : CCfg) (h1 : 1 ≤ c.A1) (h2 : 1 ≤ c.A2) (s : CSt)
    (hr : s.reply = 0 ∨ (s.reply = 1 ∧ s.waiting = true)) (hf : cfinal s = false) : ∃ a, cenabled c s a = true := by
  by_cases hb2 : s.buf2 > 0
  · exact ⟨.ir, cenabled_ir.2 hb2⟩
  · cases hw : s.waiting with
    | true =>
      rcases hr with hr | hr
      · exact ⟨.irep, cenabled_irep.2 ⟨hw, by omega, hr⟩⟩
      · exact ⟨.trep, cenabled_trep.2 ⟨hw, hr.1⟩⟩
    | false =>
      by_cases ht : s.tHold > 0
      · exact ⟨.tw, cenabled_tw.2 ⟨ht, by omega, hw⟩⟩
      · by_cases hb1 : s.buf1 > 0
        · exact ⟨.tr, cenabled_tr.2 ⟨hb1, by omega, hw⟩⟩
        · have he : s.eLeft > 0 := Nat.pos_of_ne_zero fun h0 => cfinal_eq_false.1 hf
            ⟨h0, Nat.eq_zero_of_not_pos hb1, Nat.eq_zero_of_not_pos ht, Nat.eq_zero_of_not_pos hb2, hw⟩
          exact ⟨.ew, cenabled_ew.2 ⟨he, by omega⟩⟩

/-- Of every reachable state: at most one reply is in flight, and only while the tool waits for it; a query is owed only
    as the last unit of a batch that is not yet written out. -/
def CInv (s : CSt) : Prop := (s.reply = 0 ∨ (s.reply = 1 ∧ s.waiting = true)) ∧ (s.owes = true → s.tHold > 0)

/-- each step of the chain keeps the invariant and does one unit of the remaining work -/
theorem cstep (c : CCfg) (s : CSt) (a : CAct) (hi : CInv s) (h : cenabled c s a = true) :
    CInv (capply c s a) ∧ cwork c (capply c s a) + 1 = cwork c s := by
  obtain ⟨hr, hown⟩ := hi
  cases a with
  | ew =>
    refine ⟨⟨hr, hown⟩, ?_⟩
    dsimp only [cwork, capply]
    rw [← pred_mul_add (cenabled_ew.1 h).1 (unitCost c + 1), Nat.add_one_mul s.buf1]; simp +arith only
  | tr =>
    -- the unit taken out of the first pipe turns into `w` units to write and, if `q`, a query to ask
    obtain ⟨hb, ht, hw⟩ := cenabled_tr.1 h
    refine ⟨⟨hr, fun ho => of_decide_eq_true (Bool.and_eq_true_iff.1 ho).2⟩, ?_⟩
    have ho : s.owes = false := Bool.eq_false_iff.2 fun ho => Nat.ne_of_gt (hown ho) ht
    dsimp only [cwork, capply]
    rw [← pred_mul_add hb (unitCost c), ht, ho]; simp +arith only [unitCost, qcost, Bool.false_eq_true, ↓reduceIte]
  | tw =>
    obtain ⟨ht, _, hw⟩ := cenabled_tw.1 h
    have hr0 : s.reply = 0 := hr.resolve_right fun h => Bool.noConfusion (hw.symm.trans h.2)
    rw [capply]
    by_cases hq : (s.tHold == 1 && s.owes) = true
    · -- the query goes out: the unit and the debt (2 + 2) become a unit to read and a reply to wait for (1 + 2)
      rw [if_pos hq]
      refine ⟨⟨Or.inl hr0, nofun⟩, ?_⟩
      obtain ⟨h1, ho⟩ := Bool.and_eq_true_iff.1 hq
      dsimp only [cwork]
      rw [eq_of_beq h1, ho, hw, hr0]; simp +arith only [↓reduceIte, Nat.reduceBEq, Bool.false_eq_true]
    · rw [if_neg hq]
      refine ⟨⟨Or.inl hr0, fun ho => ?_⟩, ?_⟩
      · have := hown ho
        have : s.tHold ≠ 1 := fun h1 => hq (by rw [h1, ho]; rfl)
        show s.tHold - 1 > 0
        omega
      · dsimp only [cwork]
        rw [← pred_mul_add ht 2]; simp +arith only
  | ir =>
    refine ⟨⟨hr, hown⟩, ?_⟩
    dsimp only [cwork, capply]
    rw [Nat.add_assoc, Nat.sub_add_cancel (cenabled_ir.1 h)]
  | irep =>
    obtain ⟨hw, _, hr0⟩ := cenabled_irep.1 h
    refine ⟨⟨Or.inr ⟨rfl, hw⟩, hown⟩, ?_⟩
    dsimp only [cwork, capply]
    rw [hw, hr0]; simp +arith only [↓reduceIte, Nat.reduceBEq, Bool.false_eq_true]
  | trep =>
    obtain ⟨hw, hr1⟩ := cenabled_trep.1 h
    refine ⟨⟨Or.inl rfl, hown⟩, ?_⟩
    dsimp only [cwork, capply]
    rw [hw, hr1]; simp +arith only [↓reduceIte, Nat.reduceBEq, Bool.false_eq_true]

/-- every execution of the chain is finite: its length is the work done -/
theorem cexec_length (c : CCfg) : ∀ (as : List CAct) (s t : CSt), (s.reply = 0 ∨ (s.reply = 1 ∧ s.waiting = true)) →
    (s.owes = true → s.tHold > 0) → cexec c s as = some t → as.length + cwork c t = cwork c s :=
  fun as s _ hr hown h => run_length (P := CInv) (cwork c) ⟨hr, hown⟩ (cstep c) (cexec_eq_run c s as ▸ h)

/-! ### the children with both pipes open are the audited ones -/

theorem both_piped_audited : Pipe.bothPiped Extracted.gitCommands = Pipe.auditedBothPiped := by decide +kernel

/-- no reader loop over a child's stdout is left early (extracted on every run) -/
theorem reader_breaks_audited : Extracted.readerBreaks = Pipe.auditedReaderBreaks := by decide +kernel

/-- no child can block on a stderr pipe that nobody reads (extracted on every run) -/
theorem stderr_never_blocks :
    Pipe.stderrNeverBlocks Pipe.auditedPipedStderr Pipe.auditedWrapped Extracted.gitCommands = true := by decide +kernel

/-! ### non-vacuity: concrete executions -/

/-- a small write-all run that deadlocks: A = 1, B = 1, r = 1, n = 4 — stuck after six steps with a request unsent -/
example : (exec { A := 1, B := 1, r := 1, pol := .writeAll } (init 4) [.pw, .cr, .cw, .pw, .cr, .pw]).map
    (fun s => (stuck { A := 1, B := 1, r := 1, pol := .writeAll } s, s.toSend)) = some (true, 1) := by decide +kernel

/-- the same sizes with a threaded writer run to completion -/
example : (exec { A := 1, B := 1, r := 1, pol := .threaded } (init 2) [.pw, .cr, .cw, .pr, .pw, .cr, .cw, .pr]).map final = some true := by
  decide +kernel

example : (cexec { A1 := 1, A2 := 1, w := 1, q := true } (cinit 1) [.ew, .tr, .tw, .ir, .irep, .trep]).map cfinal = some true := by
  decide +kernel

end Frrs.C17
