/-
  C11 — --dry-run changes nothing and previews exactly what a real run imports.
  (a) obligations over the tables extracted from /repo on this run: every repository-mutating step
      of lib.rs::run, stream::run and finalize() is guarded by `!opts.dry_run`, directly or because
      its callee returns at once under dry_run; and the reads of `opts.dry_run` are exactly the
      audited ones — none in the filtering path, so the filtered stream cannot depend on the flag;
  (b) the stream model has no dry-run input at all: `Filter.runBytes` is a function of options
      and stream only (the correspondence compares it with the real dry run; the end-to-end run
      compares the dry run's fast-export.filtered with a real run's, byte for byte).
-/
import Frrs.Pipeline
import Frrs.Extracted
import Frrs.Filter
import Frrs.Proofs.Cli
import Frrs.Pipes
namespace Frrs.C11
open Frrs.Pipe

/-- every mutating step of finalize() is inside an `if !opts.dry_run` -/
theorem finalize_guarded : AllGuardedByNotDryRun Extracted.returnsEarlyOnDryRun Extracted.finalizeEvents = true := by decide +kernel

/-- the importer is only spawned in the else-branch of `if opts.dry_run` -/
theorem importer_guarded : AllGuardedByNotDryRun Extracted.returnsEarlyOnDryRun Extracted.streamRunEvents = true := by decide +kernel

/-- backup, fetch, origin migration and origin removal return at once under dry_run -/
theorem callees_return_early :
    [Callee.createBackup, .fetchAllRefs, .migrateOrigin, .removeOrigin].all
      (fun c => Extracted.returnsEarlyOnDryRun.contains c) = true := by decide +kernel

/-- every mutating call of lib.rs::run is one of those callees (or the stream, handled above) -/
theorem run_mutators_are_those_callees :
    (Extracted.runEvents.all fun e => match e with
      | .call f _ => [Callee.validateOptions, .preflight, .createBackup, .fetchAllRefs, .migrateOrigin, .streamRun,
                      .detectRun, .analysisRun].contains f
      | .git _ => false
      | _ => true) = true := by decide +kernel

/-- hence under --dry-run finalize() executes no repository-mutating step -/
theorem dry_finalize_is_pure :
    ∀ e ∈ execUnder Extracted.returnsEarlyOnDryRun true Extracted.finalizeEvents, e.mutatesRepo = false :=
  guarded_pure _ _ finalize_guarded

/-- the reads of `opts.dry_run` are exactly the audited ones: a new dry-run dependent branch
    anywhere (in particular in the filtering path) breaks this obligation -/
theorem dry_run_reads_audited : Extracted.dryRunReads = auditedDryRunReads := by decide +kernel

/-- the model of the filter takes no dry-run flag: its output is a function of options and stream -/
theorem preview_is_a_function (o : FOpts) (inp : Bytes) :
    ∀ (dry₁ dry₂ : Bool), (fun (_ : Bool) => (runBytes o inp).out) dry₁ = (fun (_ : Bool) => (runBytes o inp).out) dry₂ :=
  fun _ _ => rfl

example : (execUnder Extracted.returnsEarlyOnDryRun true Extracted.finalizeEvents).length < Extracted.finalizeEvents.length := by decide +kernel

/-! ### the flag itself (model of `parse_args`, Frrs/Cli.lean) -/

/-- once `--dry-run` was read, nothing later on the line makes the run a real one -/
theorem dry_run_is_sticky (badRegex args : List Bytes) (s o : Cli.CliOpts)
    (h : Cli.loop badRegex args s = .ok o) (hs : s.dryRun = true) : o.dryRun = true :=
  (Cli.loop_kept badRegex args s o h).dryRun hs

/-- the clean-up that a full run gets by default is never added to a dry run -/
theorem dry_run_gets_no_default_cleanup (s : Cli.CliOpts) (h : s.dryRun = true) : Cli.defaultCleanup s = s := by
  unfold Cli.defaultCleanup; simp [h]

/-- **a command line that starts with `--dry-run` is a dry run**, whatever follows -/
theorem dry_run_first_is_a_dry_run (badRegex argv : List Bytes) (o : Cli.CliOpts)
    (h : Cli.parseArgs badRegex (b!"--dry-run" :: argv) = .ok o) : o.dryRun = true := by
  obtain ⟨args, _, s, hs, hl, rfl⟩ := Cli.parseArgs_ok h
  -- the `--config` pre-pass leaves `--dry-run` in front
  rw [Cli.stripConfig_cons _ _ (by decide) (by decide)] at hs
  obtain ⟨⟨rest, _⟩, _, hs⟩ := Option.map_eq_some_iff.mp hs
  cases hs
  -- the loop takes it as the value-less flag it is (the three `rfl`s: the two table look-ups and its debug guard, evaluated)
  rw [Cli.loop_flag0 badRegex _ rest _ _ rfl rfl rfl] at hl
  -- what follows cannot undo it, and the default clean-up changes the clean-up mode only
  obtain ⟨c, hc⟩ := Cli.defaultCleanup_shape s
  rw [hc]
  exact (Cli.loop_kept badRegex rest _ s hl).dryRun rfl

example : ((Cli.okOf (Cli.parseArgs [] [b!"--dry-run", b!"--path", b!"src", b!"--cleanup"])).map fun o => (o.dryRun, o.cleanup))
    = some (true, Cli.Cleanup.standard) := by decide +kernel

/-- **the exporter is started with the same command line in a dry run and in a real run**: `build_fast_export_cmd`
    does not read `dry_run` (nor the clean-up mode, `--force`, or any selector) -/
theorem preview_starts_the_same_exporter (c : Pipes.Caps) (o : Cli.CliOpts) (b : Bool) :
    Pipes.exportCmd c { o with dryRun := b } = Pipes.exportCmd c o := rfl

/-! ### the model of the command line knows exactly the flags the code knows (obligation over the extracted table) -/

/-- the flag names of the model of `parse_args` -/
def modelFlagNames : List Bytes :=
  Cli.flags0.map (·.name) ++ (Cli.flags1 []).map (·.name) ++ [b!"--cleanup"]

/-- **Every literal arm of `match arg.as_str()` in `parse_args` (extracted from /repo on this run) is a flag of the model,
    and the other way round; the only `starts_with` arm is `--cleanup=`.** A flag added to, removed from or renamed in the
    code breaks this obligation before any command line is generated. -/
theorem cli_model_knows_every_flag :
    (Extracted.cliFlagArms.all fun a => modelFlagNames.contains a) = true ∧
    (modelFlagNames.all fun a => Extracted.cliFlagArms.contains a) = true ∧
    Extracted.cliPrefixArms = [b!"--cleanup="] := by decide +kernel

end Frrs.C11
