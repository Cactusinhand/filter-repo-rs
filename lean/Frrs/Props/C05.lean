/-
  C05 — `--replace-text` rewrites exactly the matching bytes of every blob, nothing else.
  First the literal engine (`replace_all_bytes`), rule-file meaning and order of application,
  template expansion; then the blob branch of the stream filter (framing by byte count, the
  rewritten payload), and the options and exporter flags that bring blob data to it.
  Regex *matching* is the `regex` crate's (a parameter).
-/
import Frrs.Proofs.Stanza
import Frrs.Proofs.Replace
import Frrs.Proofs.DataHeader
import Frrs.Proofs.Reader
import Frrs.Validate
import Frrs.Proofs.Cli
import Frrs.Proofs.Pipes
namespace Frrs.C05

/-- **Meaning of one literal rule**: the result is obtained by replacing the first occurrence and
    continuing *after* it — leftmost, non-overlapping, a single pass — for every haystack. -/
theorem replaceAll_spec (h n r : Bytes) (hn : n ≠ []) : Repl n r h (replaceAll h n r) :=
  replaceAll_eq h r hn ▸ replAux_spec n r hn 0 h

/-- … and that meaning determines the bytes: nothing else can come out. -/
theorem replaceAll_unique (h n r out : Bytes) (hn : n ≠ []) (hr : Repl n r h out) :
    replaceAll h n r = out :=
  (replaceAll_eq h r hn).trans (hr.unique hn)

/-- **No match ⇒ identical bytes** (hence the identical object id) -/
theorem replaceAll_nomatch (h n r : Bytes) (hno : ¬ Occurs n h) : replaceAll h n r = h := by
  cases n with
  | nil => rfl
  | cons b n => exact replaceAll_unique h _ r h nofun (.done hno)

theorem replaceAll_empty_needle (h r : Bytes) : replaceAll h [] r = h := rfl

/-- a match at the head is replaced and scanning resumes **after** the match (never inside the
    replacement, never overlapping) -/
theorem replaceAll_match (n r t : Bytes) (hn : n ≠ []) :
    replaceAll (n ++ t) n r = r ++ replaceAll t n r := by
  rw [replaceAll_eq _ r hn, replaceAll_eq _ r hn]
  exact replAux_match n r t hn

/-- **File order, each rule once, later rules see earlier output** -/
theorem apply_cons (rule : Bytes × Bytes) (rules : List (Bytes × Bytes)) (d : Bytes) :
    applyLiteral (rule :: rules) d = applyLiteral rules (replaceAll d rule.1 rule.2) := rfl

theorem apply_nil (d : Bytes) : applyLiteral [] d = d := rfl

/-- a blob in which no rule's literal occurs comes out byte-identical, binary or not -/
theorem apply_unchanged (rules : List (Bytes × Bytes)) (d : Bytes)
    (h : ∀ rule ∈ rules, ¬ Occurs rule.1 d) : applyLiteral rules d = d := by
  induction rules with
  | nil => rfl
  | cons rule rules ih =>
    rw [apply_cons, replaceAll_nomatch d rule.1 rule.2 (h rule (by simp))]
    exact ih (fun r hr => h r (by simp [hr]))

/-! ### what a rule-file line means -/

theorem rule_blank : parseLiteralLine [] = none := rfl

theorem rule_comment (rest : Bytes) : parseLiteralLine (B.hash :: rest) = none := by
  cases rest <;> rfl

theorem rule_regex_skipped (rest : Bytes) : parseLiteralLine (b!"regex:" ++ rest) = none := by
  cases rest <;> rfl

theorem rule_glob_skipped (rest : Bytes) : parseLiteralLine (b!"glob:" ++ rest) = none := by
  cases rest <;> rfl

/-- `a==>b`: split at the *first* `==>` (what `findSub` returns, see `findSub_some`) -/
theorem rule_arrow (l a b : Bytes) (h0 : l ≠ []) (h1 : startsWith l [B.hash] = false)
    (h2 : startsWith l b!"regex:" = false) (h3 : startsWith l b!"glob:" = false)
    (hf : findSub arrow l = some (a, b)) (ha : a ≠ []) :
    parseLiteralLine l = some (a, b) := by
  rw [parseLiteralLine, if_neg (mt List.isEmpty_iff.1 h0), h1, h2, h3, hf]
  exact if_neg (mt List.isEmpty_iff.1 ha)

/-- a bare literal `a` means `a==>***REMOVED***` -/
theorem rule_bare (l : Bytes) (h0 : l ≠ []) (h1 : startsWith l [B.hash] = false)
    (h2 : startsWith l b!"regex:" = false) (h3 : startsWith l b!"glob:" = false)
    (hf : findSub arrow l = none) :
    parseLiteralLine l = some (l, removedToken) := by
  rw [parseLiteralLine, if_neg (mt List.isEmpty_iff.1 h0), h1, h2, h3, hf]
  rfl

/-- `findSub` returns an occurrence, and `none` only when there is none (Frrs/Proofs/Bytes.lean) -/
theorem findSub_some' (n h pre post : Bytes) (hf : findSub n h = some (pre, post)) : h = pre ++ n ++ post :=
  findSub_some hf

set_option linter.unusedVariables false in  -- `hn` is not needed: the empty needle is always found
theorem findSub_none' (n h : Bytes) (hn : n ≠ []) (hf : findSub n h = none) : ¬ Occurs n h :=
  findSub_none hf

/-! ### templates -/

theorem expand_no_dollar (caps : Nat → Option Bytes) (t : Bytes) (h : ∀ b ∈ t, b ≠ B.dollar) :
    expandTemplate caps t = t := by
  suffices ∀ f, t.length < f → expandTplAux caps f t = t from this _ (Nat.lt_succ_self _)
  induction t with
  | nil => intro f hf; cases f with | zero => cases hf | succ => rfl
  | cons b t ih =>
    intro f hf
    cases f with
    | zero => cases hf
    | succ f =>
      -- `b` is no `$`, so the scan copies it
      exact (if_neg (mt of_decide_eq_true (h b (.head _)))).trans
        (congrArg _ (ih (fun x hx => h x (.tail _ hx)) f (Nat.lt_of_succ_lt_succ hf)))

/-! ### non-vacuity -/

example : replaceAll b!"aabb" b!"ab" b!"" = b!"ab" := by decide +kernel      -- single pass (see C07)
example : replaceAll b!"aaa" b!"aa" b!"b" = b!"ba" := by decide +kernel       -- non-overlapping, leftmost
example : replaceAll b!"xaby" b!"ab" b!"ab" = b!"xaby" := by decide +kernel
example : Repl b!"ab" b!"X" b!"cabab" b!"cXX" :=
  .step (pre := b!"c") (post := b!"ab") (.cons (.nil _ _) (by decide))
    (.step (pre := []) (post := []) (.nil _ _) (.done (not_occurs_nil (by decide))))
example : parseLiteralRules b!"# c

foo
a==>b
regex:x==>y
==>z
q==>r==>s" =
    [(b!"foo", removedToken), (b!"a", b!"b"), (b!"q", b!"r==>s")] := by decide +kernel
example : applyLiteral [(b!"a", b!"b"), (b!"b", b!"c")] b!"ab" = b!"cc" := by decide +kernel  -- later rules see earlier output
example : expandTemplate (fun k => if k == 1 then some b!"G" else none) b!"$$1-$1-$2-$x-$" = b!"$1-G--$x-$" := by
  decide +kernel

/-! ### the blob stanza as the main loop handles it (for every payload) -/

/-- **exactly the payload is rewritten, and framing is by length**: in a blob stanza whose blob is kept, the `data` line and
    the `n` payload bytes that follow — whatever they contain — become the buffered stanza lines, a recomputed length header
    and `rewriteBlob o payload`; the loop resumes right after the payload. (`rewriteBlob` = literal rules then regex rules,
    `apply_unchanged`/`replaceAll_spec` above say what those do.) -/
theorem blob_payload_rewritten_exactly (o : FOpts) (s : FState) (line inp payload rest : Bytes) (n fuel : Nat)
    (hs : s.skippingTag = false) (hb : s.inBlob = true) (hc : s.inCommit = false)
    (hp1 : s.pendingTagReset = none) (hp2 : s.pendingBranchReset = none)
    (hl : startsWith line b!"data " = true) (hh : parseDataHeader line = some n)
    (hr : readExact n inp = some (payload, rest)) (hk : blobStripped o s n = false) :
    ∃ s', step o s line inp fuel = .cont s' rest ∧
      s'.out = s.out ++ (s.blobBuf.reverse.flatten ++ dataHeader (rewriteBlob o payload).length ++ rewriteBlob o payload) ∧
      s'.inBlob = false ∧ s'.pairs = s.pairs ∧ s'.oversizeMarks = s.oversizeMarks :=
  blob_data_kept o s line inp payload rest n fuel hs hb hc hp1 hp2 hl hh hr hk

/-- **the rewritten blob is framed so that a reader gets exactly the new payload**: the length header the filter writes for a
    rewritten payload parses — with the filter's own header parser, the one whose agreement with the code the correspondence
    checks — to the new payload's length, and reading that many bytes from what follows yields the rewritten payload and
    leaves the rest of the stream untouched. So a replacement that changes the payload's size cannot shift any later
    stanza. (The bound is the parser's own 500 MB limit; the importer has none.) -/
theorem rewritten_blob_reads_back (o : FOpts) (payload rest : Bytes) (h : (rewriteBlob o payload).length ≤ maxDataBlock) :
    parseDataHeader (dataHeader (rewriteBlob o payload).length) = some (rewriteBlob o payload).length ∧
    readExact (rewriteBlob o payload).length (rewriteBlob o payload ++ rest) = some (rewriteBlob o payload, rest) :=
  ⟨parseDataHeader_dataHeader _ h, readExact_append _ _⟩

/-! ### content rules need content -/

/-- **`--replace-text` is never combined with `--no-data`**: with `--no-data` no blob passes through the stream, so the rules
    would silently rewrite nothing; the option set is refused, whatever else it holds, and the refused run writes nothing.
    (The order of the two options on the command line cannot matter: the check is over the parsed option set. That it is
    reached for every order is checked end to end — seeded change C05-5 moved it into the argument loop.) -/
theorem replace_text_with_no_data_refused (o : FOpts) (rules : List (Bytes × Bytes)) (inp : Bytes) :
    (runValidated { o with blobRules := some rules } true inp).ok = false ∧
    (runValidated { o with blobRules := some rules } true inp).out = [] := by
  simp [runValidated, validOptions]

/-- without `--no-data` the same option set runs (not vacuous) -/
example : validOptions { blobRules := some [(b!"a", b!"b")] } false = true := by decide +kernel

/-! ### the two flags on the command line (model of `parse_args`, Frrs/Cli.lean) -/

/-- **The order of `--replace-text FILE` and `--no-data` on the command line cannot matter**: whichever is read first is
    still set when the line ends, for every continuation of the line — so the option set that `validate_options` refuses
    (`replace_text_with_no_data_refused`) is reached in either order. -/
theorem content_rule_flags_survive_the_line (badRegex args : List Bytes) (s o : Cli.CliOpts)
    (h : Cli.loop badRegex args s = .ok o) :
    (s.noData = true → o.noData = true) ∧ (s.replaceText.isSome = true → o.replaceText.isSome = true) :=
  ⟨(Cli.loop_kept badRegex args s o h).noData, (Cli.loop_kept badRegex args s o h).replaceText⟩

example : ((Cli.okOf (Cli.parseArgs [] [b!"--no-data", b!"--replace-text", b!"r.txt", b!"--force"])).map fun o => (o.noData, o.replaceText))
    = some (true, some b!"r.txt") := by decide +kernel
example : ((Cli.okOf (Cli.parseArgs [] [b!"--replace-text", b!"r.txt", b!"--force", b!"--no-data"])).map fun o => (o.noData, o.replaceText))
    = some (true, some b!"r.txt") := by decide +kernel

/-! ### the exporter's command line (model of pipes.rs `build_fast_export_cmd`, Frrs/Pipes.lean) -/

/-- **A run with `--replace-text` is always fed blob contents**: unless `--no-data` was typed (which `validate_options`
    refuses next to `--replace-text`), the exporter is never started with `--no-data` — `--max-blob-size` and
    `--strip-blobs-with-ids` on the same repository included (the case in which the tool adds `--no-data` on its own). -/
theorem replace_text_run_exports_blob_data (c : Pipes.Caps) (o : Cli.CliOpts) (args : List Bytes)
    (h : Pipes.exportCmd c o = some args) (hov : o.feOverride = none)
    (hr : o.replaceText.isSome = true) (hn : o.noData = false) (hrefs : b!"--no-data" ∉ o.refs)
    (hsrc : o.source ≠ b!"--no-data") : b!"--no-data" ∉ args := by
  obtain ⟨re, mt, hre, hmt, rfl⟩ := Pipes.exportCmd_eq_some c o args h hov
  have hauto : Pipes.autoNoData o = false := by
    rw [Pipes.autoNoData, Option.isNone_eq_false_iff.2 hr, Bool.and_false, Bool.false_and]
  rw [hn, hauto]
  simp only [List.mem_append, not_or]
  -- the nine parts of the command line, in order
  exact ⟨⟨⟨⟨⟨⟨⟨⟨by simpa using hsrc.symm, by split <;> decide⟩, by decide⟩, hrefs⟩, by decide⟩, by split <;> decide⟩,
    by decide⟩, Pipes.reencodePart_no_nodata c o re hre⟩, Pipes.markTagsPart_no_nodata c o mt hmt⟩

set_option linter.unusedVariables false in  -- `hp` is not needed: this holds of any options that dispatch to the filter
/-- **The whole way, for every command line**: if what was typed reaches the filter (not a scan mode, not refused by
    `validate_options`) and names a `--replace-text` file, the exporter is started without `--no-data`. -/
theorem every_filtering_run_with_rules_sees_blob_data (c : Pipes.Caps) (badRegex argv : List Bytes) (o : Cli.CliOpts)
    (args : List Bytes) (hp : Cli.parseArgs badRegex argv = .ok o) (hd : Pipes.dispatch o = .filter)
    (hr : o.replaceText.isSome = true) (hx : Pipes.exportCmd c o = some args) (hov : o.feOverride = none)
    (hrefs : b!"--no-data" ∉ o.refs) (hsrc : o.source ≠ b!"--no-data") : b!"--no-data" ∉ args :=
  replace_text_run_exports_blob_data c o args hx hov hr
    (Pipes.validCli_no_data_excludes_rules o (Pipes.dispatch_eq_filter.1 hd).2.2 hr) hrefs hsrc

end Frrs.C05
