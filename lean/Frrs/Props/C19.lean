/-
  C19 — `--analyze` is read-only and its numbers match the repository.

  What is proved here, for every input:
  * `analysis_read_only`, `analysis_closure` — (obligation over the tables extracted from /repo's source on
    every run) every module reachable from analysis.rs runs only non-mutating git commands and contains no
    filesystem-write site;
  * `countRefs_partition` — the per-namespace ref counters partition the refs;
  * `topN_spec` — `push_top` folded over the blobs in ANY iteration order yields exactly the `limit` largest
    sizes, largest first: the input is a permutation of (reported ++ dropped) and nothing dropped is larger than
    anything reported;
  * `largestFiles_sorted`, `largestFiles_length`, `addOccurrence_*` — the per-path table takes the maximum size
    over the versions of a path, counts them, and the report is in descending size order and at most `top` long.
  That the numbers equal what git plumbing computes on a real repository is the end-to-end comparison of the
  check (reachable blobs, commits, refs, parents, unreachable objects); the functions above are tied to
  analysis.rs by the function-level correspondence (suites topn, largestfiles).
-/
import Frrs.Analyze
import Frrs.Extracted
import Frrs.Proofs.Pipes
namespace Frrs.C19
open Frrs.Pipe

/-! ### read-only (obligations over the extracted tables) -/

theorem analysis_read_only :
    readOnlyClosure Extracted.moduleCalls Extracted.gitCommands Extracted.fsWriteSites .analysis [] = true := by
  -- the call graph is shallow: the closure is complete after three rounds (after one, for the table as it is), and the
  -- kernel is spared the other eighteen; should it ever not be, the statement is evaluated as it stands
  first
  | (have h := reach_of_fix Extracted.moduleCalls 3 [.analysis] (by decide +kernel) 21 (by decide)
     unfold readOnlyClosure reachable
     rw [h]
     decide +kernel)
  | decide +kernel

/-- what the obligation means: the reachable set is closed under calls and no command in it mutates -/
theorem analysis_closure :
    (∀ a b, (a, b) ∈ Extracted.moduleCalls → a ∈ reachable Extracted.moduleCalls .analysis →
        b ∈ reachable Extracted.moduleCalls .analysis) ∧
    (∀ c ∈ Extracted.gitCommands, c.file ∈ reachable Extracted.moduleCalls .analysis → c.mutates = false) :=
  readOnlyClosure_sound analysis_read_only

/-- the analysis module is entered from `run` and is not reached from the filtering pipeline -/
theorem analysis_dispatched : (Extracted.runEvents.any fun e => match e with | .call .analysisRun _ => true | _ => false) = true := by
  decide +kernel

/-- in analysis mode `run` calls nothing else: every other step of the dispatcher is confined to filtering mode -/
theorem modes_separated : ModesSeparated Extracted.runEvents = true := by decide +kernel

/-! ### ref counters -/

/-- one more ref is counted: `total` goes up by one, and so does the sum of the four classes -/
def Counted (c c' : RefCounts) : Prop :=
  c'.total = c.total + 1 ∧ c'.heads + c'.tags + c'.remotes + c'.other = c.heads + c.tags + c.remotes + c.other + 1

theorem foldl_counted {α : Type} {f : RefCounts → α → RefCounts} (hf : ∀ c n, Counted c (f c n))
    (names : List α) (c : RefCounts) (h : c.total = c.heads + c.tags + c.remotes + c.other) :
    (names.foldl f c).total = (names.foldl f c).heads + (names.foldl f c).tags + (names.foldl f c).remotes +
        (names.foldl f c).other ∧
      (names.foldl f c).total = c.total + names.length := by
  induction names generalizing c with
  | nil => exact ⟨h, rfl⟩
  | cons n rest ih =>
    have ⟨h1, h2⟩ := hf c n
    have ⟨i1, i2⟩ := ih (f c n) (by rw [h1, h2, h])
    exact ⟨i1, i2.trans (by rw [h1, List.length_cons]; omega)⟩

theorem countRefs_step_inv (c : RefCounts) (names : List Bytes)
    (h : c.total = c.heads + c.tags + c.remotes + c.other) :
    let r := names.foldl (fun c n =>
      let c := { c with total := c.total + 1 }
      if startsWith n refsHeads then { c with heads := c.heads + 1 }
      else if startsWith n refsTags then { c with tags := c.tags + 1 }
      else if startsWith n b!"refs/remotes/" then { c with remotes := c.remotes + 1 }
      else { c with other := c.other + 1 }) c
    r.total = r.heads + r.tags + r.remotes + r.other ∧ r.total = c.total + names.length := by
  refine foldl_counted (fun c n => ?_) names c h
  -- each of the four branches raises `total` and one class
  refine iteInduction (fun _ => ?_) fun _ => iteInduction (fun _ => ?_) fun _ => iteInduction (fun _ => ?_) fun _ => ?_
  all_goals exact ⟨rfl, by dsimp only; omega⟩

/-- every ref is counted once, in exactly one namespace -/
theorem countRefs_partition (names : List Bytes) :
    (countRefs names).total = names.length ∧
    (countRefs names).total = (countRefs names).heads + (countRefs names).tags + (countRefs names).remotes + (countRefs names).other :=
  have ⟨h1, h2⟩ := countRefs_step_inv {} names rfl
  ⟨h2.trans (Nat.zero_add _), h1⟩

/-! ### top-N -/

def SizeSorted (l : List Item) : Prop := l.Pairwise (fun a b => a.1 ≤ b.1)

theorem itemLt_size {a b : Item} (h : itemLt a b = true) : a.1 ≤ b.1 := by
  simp only [itemLt, Bool.or_eq_true, decide_eq_true_eq, Bool.and_eq_true, beq_iff_eq] at h
  rcases h with h | ⟨h, _⟩ <;> omega

theorem not_itemLt_size {a b : Item} (h : ¬ itemLt a b = true) : b.1 ≤ a.1 := by
  simp only [itemLt, Bool.or_eq_true, decide_eq_true_eq, not_or, Nat.not_lt] at h
  exact h.1

/-- The heap and the file report are both kept in order by insertion: `ins` puts `x` in front of the first element
    that fails `p`. If the elements satisfying `p` may stand before `x`, and `x` before the others and before all
    that may follow them, then the result is a permutation of `x :: l`, and is sorted when `l` is. -/
theorem insert_spec {α : Type} {R : α → α → Prop} {ins : List α → List α} {x : α} {p : α → Prop}
    [DecidablePred p] (nil : ins [] = [x])
    (cons : ∀ y r, ins (y :: r) = if p y then y :: ins r else x :: y :: r)
    (before : ∀ {y}, p y → R y x) (after : ∀ {y}, ¬ p y → R x y) (trans : ∀ {y z}, R x y → R y z → R x z)
    (l : List α) : (ins l).Perm (x :: l) ∧ (l.Pairwise R → (ins l).Pairwise R) := by
  induction l with
  | nil => rw [nil]; exact ⟨.refl _, fun _ => List.pairwise_singleton R x⟩
  | cons y r ih =>
    rw [cons]
    split
    · next hy =>
      refine ⟨(ih.1.cons y).trans (.swap x y r), fun h => ?_⟩
      have ⟨hyr, hr⟩ := List.pairwise_cons.mp h
      refine List.pairwise_cons.mpr ⟨fun z hz => ?_, ih.2 hr⟩
      exact List.forall_mem_cons.mpr ⟨before hy, hyr⟩ z (ih.1.mem_iff.mp hz)
    · next hy =>
      refine ⟨.refl _, fun h => List.pairwise_cons.mpr ⟨?_, h⟩⟩
      exact List.forall_mem_cons.mpr ⟨after hy, fun z hz => trans (after hy) (List.rel_of_pairwise_cons h hz)⟩

theorem insertSorted_spec (x : Item) (l : List Item) :
    (insertSorted x l).Perm (x :: l) ∧ (SizeSorted l → SizeSorted (insertSorted x l)) :=
  insert_spec (R := fun a b : Item => a.1 ≤ b.1) (ins := insertSorted x) (p := fun y => itemLt y x = true)
    rfl (fun _ _ => rfl) itemLt_size not_itemLt_size Nat.le_trans l

/-- the state of the top-N scan after the items `processed`: `heap` holds the `limit` largest in ascending order of
    size (what `pushTop` keeps), `dropped` the others (a ghost list: the code forgets them) -/
structure Inv (limit : Nat) (processed heap dropped : List Item) : Prop where
  perm : processed.Perm (heap ++ dropped)
  sorted : SizeSorted heap
  low : ∀ d ∈ dropped, ∀ y ∈ heap, d.1 ≤ y.1
  len : heap.length = min limit processed.length

theorem Inv.dropped_nil {limit P heap D} (h : Inv limit P heap D) (hl : heap.length < limit) : D = [] := by
  have h1 := h.perm.length_eq
  have h2 := h.len
  rw [List.length_append] at h1
  exact List.eq_nil_of_length_eq_zero (by omega)

/-- `x` is turned away: the heap is full and `x` is no larger than anything in it -/
theorem Inv.drop {limit P heap D} (x : Item) (h : Inv limit P heap D) (hx : ∀ y ∈ heap, x.1 ≤ y.1)
    (hfull : limit ≤ heap.length) : Inv limit (P ++ [x]) heap (x :: D) where
  perm := (List.perm_append_singleton x P).trans ((h.perm.cons x).trans List.perm_middle.symm)
  sorted := h.sorted
  low := List.forall_mem_cons.mpr ⟨hx, h.low⟩
  len := by have := h.len; rw [List.length_append, List.length_singleton]; omega

theorem pushTop_inv {limit : Nat} {P heap D : List Item} (x : Item) (h : Inv limit P heap D) :
    ∃ D', Inv limit (P ++ [x]) (pushTop limit heap x) D' := by
  have hp : (P ++ [x]).Perm (x :: (heap ++ D)) := (List.perm_append_singleton x P).trans (h.perm.cons x)
  have hlen := h.len
  fun_cases pushTop limit heap x
  · next h0 =>
    -- a limit of zero keeps nothing
    cases eq_of_beq h0
    cases List.eq_nil_of_length_eq_zero (hlen.trans (Nat.zero_min _))
    exact ⟨_, h.drop x nofun (Nat.zero_le _)⟩
  · next hroom =>
    -- room left: nothing has been dropped so far
    cases h.dropped_nil hroom
    have ⟨hperm, hsorted⟩ := insertSorted_spec x heap
    refine ⟨[], hp.trans (hperm.symm.append_right []), hsorted h.sorted, nofun, ?_⟩
    rw [hperm.length_eq, List.length_append, List.length_cons, List.length_singleton]
    omega
  · next m rest hgt hfull =>
    -- the minimum `m` makes way for `x`; whatever stays is at least `m`
    have ⟨hperm, hsorted⟩ := insertSorted_spec x rest
    have ⟨hm, hs⟩ := List.pairwise_cons.mp h.sorted
    have hm' : ∀ y ∈ insertSorted x rest, m.1 ≤ y.1 := fun y hy =>
      (List.mem_cons.mp (hperm.mem_iff.mp hy)).elim (· ▸ Nat.le_of_lt hgt) (hm y)
    refine ⟨m :: D, ?_, hsorted hs, List.forall_mem_cons.mpr ⟨hm', fun d hd y hy => ?_⟩, ?_⟩
    · exact hp.trans ((List.perm_middle.symm.cons x).trans (hperm.symm.append_right _))
    · exact Nat.le_trans (h.low d hd m List.mem_cons_self) (hm' y hy)
    · rw [hperm.length_eq, List.length_append, List.length_cons, List.length_singleton]
      rw [List.length_cons] at hlen hfull
      omega
  · next m rest hle hfull =>
    -- `x` is no larger than the minimum `m`: it is turned away
    have ⟨hm, _⟩ := List.pairwise_cons.mp h.sorted
    refine ⟨_, h.drop x (List.forall_mem_cons.mpr ⟨Nat.le_of_not_lt hle, fun y hy => ?_⟩) (Nat.le_of_not_lt hfull)⟩
    exact Nat.le_trans (Nat.le_of_not_lt hle) (hm y hy)
  · next hfull => exact ⟨_, h.drop x nofun (Nat.le_of_not_lt hfull)⟩   -- full and empty: the limit is zero again

theorem fold_inv {limit : Nat} (items : List Item) :
    ∀ {P heap D : List Item}, Inv limit P heap D →
      ∃ D', Inv limit (P ++ items) (items.foldl (pushTop limit) heap) D' := by
  induction items with
  | nil => intro P heap D h; exact ⟨D, by simpa using h⟩
  | cons x rest ih =>
    intro P heap D h
    obtain ⟨D1, h1⟩ := pushTop_inv x h
    obtain ⟨D2, h2⟩ := ih h1
    exact ⟨D2, by simpa using h2⟩

/-- **top-N is exact, for every iteration order**: the blobs are a permutation of (reported ++ dropped), the
    report is in descending size order, nothing dropped is larger than anything reported, and the report has
    `min limit n` rows. Hence the multiset of reported sizes is the multiset of the `limit` largest sizes. -/
theorem topN_spec (limit : Nat) (items : List Item) :
    ∃ dropped, items.Perm (topN limit items ++ dropped) ∧
      (topN limit items).Pairwise (fun a b => b.1 ≤ a.1) ∧
      (∀ d ∈ dropped, ∀ y ∈ topN limit items, d.1 ≤ y.1) ∧
      (topN limit items).length = min limit items.length := by
  have ⟨D, h⟩ := fold_inv (limit := limit) items ⟨.refl [], .nil, nofun, (Nat.min_zero _).symm⟩
  refine ⟨D, ?_, ?_, ?_, ?_⟩
  · exact h.perm.trans (List.Perm.append_right D (List.reverse_perm _).symm)
  · exact List.pairwise_reverse.mpr h.sorted
  · exact fun d hd y hy => h.low d hd y (List.mem_reverse.mp hy)
  · exact (List.length_reverse ..).trans h.len

/-- consequence used by the end-to-end comparison: the order in which the hash map hands out the blobs does not
    change the multiset of reported sizes — two runs over permuted inputs drop and keep "the same" sizes in the
    sense that every kept size dominates every dropped size in both -/
theorem topN_min_dominates (limit : Nat) (items : List Item) (x : Item) (hx : x ∈ items)
    (hnot : x ∉ topN limit items) : ∀ y ∈ topN limit items, x.1 ≤ y.1 := by
  obtain ⟨D, hp, _, hlow, _⟩ := topN_spec limit items
  exact hlow x ((List.mem_append.mp (hp.mem_iff.mp hx)).resolve_left hnot)

/-! ### largest files -/

theorem insertBySize_sorted (x : FileStat) (l : List FileStat) (h : l.Pairwise (fun a b => b.size ≤ a.size)) :
    (insertBySize x l).Pairwise (fun a b => b.size ≤ a.size) :=
  (insert_spec (R := fun a b : FileStat => b.size ≤ a.size) (ins := insertBySize x) (p := fun y => y.size > x.size)
    rfl (fun _ _ => rfl) Nat.le_of_lt Nat.le_of_not_lt (fun h1 h2 => Nat.le_trans h2 h1) l).2 h

theorem sortBySizeDesc_sorted (l : List FileStat) : (sortBySizeDesc l).Pairwise (fun a b => b.size ≤ a.size) := by
  induction l with
  | nil => exact .nil
  | cons x r ih => exact insertBySize_sorted x _ ih

/-- the file report is in descending size order -/
theorem largestFiles_sorted (top : Nat) (blobs : List (Bytes × Nat × List Bytes)) :
    (largestFiles top blobs).Pairwise (fun a b => b.size ≤ a.size) := by
  unfold largestFiles
  split
  · exact .nil
  · exact List.Pairwise.sublist (List.take_sublist _ _) (sortBySizeDesc_sorted _)

/-- and has at most `top` rows -/
theorem largestFiles_length (top : Nat) (blobs : List (Bytes × Nat × List Bytes)) :
    (largestFiles top blobs).length ≤ top := by
  unfold largestFiles
  split
  · exact Nat.zero_le _
  · exact List.length_take_le _ _

/-- the per-path table: adding an occurrence of `path` raises its recorded size to the maximum and counts it -/
theorem addOccurrence_lookup (tbl : List FileStat) (oid : Bytes) (size : Nat) (path : Bytes) :
    ∃ f ∈ addOccurrence tbl oid size path, f.path = path ∧ size ≤ f.size ∧
      (match tbl.find? (fun g => g.path == path) with
        | some g => f.size = max g.size size ∧ f.versions = g.versions + 1
        | none => f.size = size ∧ f.versions = 1) := by
  fun_induction addOccurrence tbl oid size path with
  | case1 => exact ⟨_, List.mem_singleton_self _, rfl, Nat.le_refl _, rfl, rfl⟩
  | case2 g r hp =>
    have hgp : g.path = path := eq_of_beq hp
    rw [List.find?_cons_of_pos (p := fun g : FileStat => g.path == path) hp]
    split
    · next hs => exact ⟨_, List.mem_cons_self, hgp, Nat.le_refl _, (Nat.max_eq_right (Nat.le_of_lt hs)).symm, rfl⟩
    · next hs =>
      exact ⟨_, List.mem_cons_self, hgp, Nat.le_of_not_lt hs, (Nat.max_eq_left (Nat.le_of_not_lt hs)).symm, rfl⟩
  | case3 g r hp ih =>
    rw [List.find?_cons_of_neg (p := fun g : FileStat => g.path == path) hp]
    have ⟨f, hf, h⟩ := ih
    exact ⟨f, List.mem_cons_of_mem _ hf, h⟩

/-- other paths are untouched -/
theorem addOccurrence_other (tbl : List FileStat) (oid : Bytes) (size : Nat) (path q : Bytes) (hq : (q == path) = false) :
    (addOccurrence tbl oid size path).find? (fun g => g.path == q) = tbl.find? (fun g => g.path == q) := by
  -- an entry for `path` is not the one `q` looks up
  have skip (f : FileStat) (l : List FileStat) (hf : f.path = path) :
      (f :: l).find? (fun g => g.path == q) = l.find? (fun g => g.path == q) :=
    List.find?_cons_of_neg fun h => ne_of_beq_false hq ((eq_of_beq h).symm.trans hf)
  fun_induction addOccurrence tbl oid size path with
  | case1 => exact skip _ _ rfl
  | case2 g r hp =>
    have hgp : g.path = path := eq_of_beq hp
    rw [skip g r hgp]
    split <;> exact skip _ _ hgp
  | case3 g r hp ih => rw [List.find?_cons, List.find?_cons, ih]

/-! ### the statements are not vacuous -/

example : topN 2 [(5, b!"a"), (9, b!"b"), (5, b!"c"), (7, b!"d")] = [(9, b!"b"), (7, b!"d")] := by decide +kernel
example : (countRefs [b!"refs/heads/m", b!"refs/tags/v", b!"refs/remotes/o/m", b!"refs/notes/x", b!"refs/heads/n"]) =
    { total := 5, heads := 2, tags := 1, remotes := 1, other := 1 } := by decide +kernel
example : (largestFiles 2 [(b!"o1", 5, [b!"a"]), (b!"o2", 9, [b!"a", b!"b"]), (b!"o3", 1, [b!"c"])]).map (fun f => (f.path, f.size, f.versions)) =
    [(b!"a", 9, 2), (b!"b", 9, 1)] := by decide +kernel   -- equal sizes keep their table order (stable sort)

/-- `--analyze` (and `--detect-secrets`) never reach the filter, whatever filtering options stand next to them on the
    command line (model of `lib.rs run`, Frrs/Pipes.lean `dispatch`) -/
theorem scan_modes_never_filter (o : Cli.CliOpts) (h : o.detectSecrets = true ∨ o.analyze = true) :
    Pipes.dispatch o ≠ .filter := by
  intro hd
  obtain ⟨h1, h2, -⟩ := Pipes.dispatch_eq_filter.1 hd
  rcases h with h | h
  · exact Bool.false_ne_true (h1 ▸ h)
  · exact Bool.false_ne_true (h2 ▸ h)

end Frrs.C19
