/-
  Frrs.Proofs.Codec — the c-style quoting of paths (C15).

  `Body q p` (the quoted body `q` is a way git's `quote_c_style` renders the path bytes `p`) is the hub: what the tool
  writes is such a body (`body_enqBody`), and each of the three readers — the tool's decoder (`deq_body`), the tool's
  scanner for the closing quote (`scan_body`), git's own `unquote_c_style` (`gitUnq_body`) — reads every such body back.
  The round trips of C15 are compositions of these.
-/
import Frrs.PathCodec
import Frrs.Proofs.ByteClass
namespace Frrs

/-! ### the byte-level facts, as finite tables

  Stated over `n : Nat` below 256 and carried to bytes along `b.toNat`: a `∀ b : UInt8` has no `Decidable` instance for the
  kernel to evaluate. -/

theorem mem_octDigits : ∀ n : Nat, n < 256 → isOct (UInt8.ofNat n) = true →
    UInt8.ofNat n ∈ [(0x30 : UInt8), 0x31, 0x32, 0x33, 0x34, 0x35, 0x36, 0x37] := by decide +kernel

theorem mem_firstDigits : ∀ n : Nat, n < 256 → (0x30 : UInt8) ≤ UInt8.ofNat n → UInt8.ofNat n ≤ 0x33 →
    UInt8.ofNat n ∈ [(0x30 : UInt8), 0x31, 0x32, 0x33] := by decide +kernel

/-- three octal digits `\abc` with `a ≤ 3`: `a` is an octal digit too, and the value the tool's decoder assembles in
    32 bits and truncates is the value git assembles in 8 (4 · 8 · 8 cases) -/
theorem octVal_table : ∀ a ∈ [(0x30 : UInt8), 0x31, 0x32, 0x33], ∀ b ∈ [(0x30 : UInt8), 0x31, 0x32, 0x33, 0x34, 0x35, 0x36, 0x37],
    ∀ c ∈ [(0x30 : UInt8), 0x31, 0x32, 0x33, 0x34, 0x35, 0x36, 0x37],
    isOct a = true ∧
    ((((a - 0x30).toUInt32 <<< 3 ||| (b - 0x30).toUInt32) <<< 3) ||| (c - 0x30).toUInt32).toUInt8 = octVal a b c := by
  decide +kernel

theorem octVal_facts {a b c : UInt8} (h1 : 0x30 ≤ a) (h2 : a ≤ 0x33) (h3 : isOct b = true) (h4 : isOct c = true) :
    isOct a = true ∧
    ((((a - 0x30).toUInt32 <<< 3 ||| (b - 0x30).toUInt32) <<< 3) ||| (c - 0x30).toUInt32).toUInt8 = octVal a b c := by
  have ha := mem_firstDigits a.toNat a.toNat_lt
  have hb := mem_octDigits b.toNat b.toNat_lt
  have hc := mem_octDigits c.toNat c.toNat_lt
  simp only [UInt8.ofNat_toNat] at ha hb hc
  exact octVal_table a (ha h1 h2) b (hb h3) c (hc h4)

/-- the three digits the tool writes for a byte are an octal escape git accepts, and stand for that byte -/
theorem enqByte_octal : ∀ n : Nat, n < 256 →
    let b := UInt8.ofNat n
    (0x30 : UInt8) ≤ ((b >>> 6) &&& 7) + 0x30 ∧ ((b >>> 6) &&& 7) + 0x30 ≤ 0x33 ∧
    isOct (((b >>> 3) &&& 7) + 0x30) = true ∧ isOct ((b &&& 7) + 0x30) = true ∧
    octVal (((b >>> 6) &&& 7) + 0x30) (((b >>> 3) &&& 7) + 0x30) ((b &&& 7) + 0x30) = b := by
  decide +kernel

/-- an octal digit is none of the bytes that mean something else to one of the readers: the quote, the backslash, the
    escape letters `n t r` of the tool and `a b f v` of git -/
theorem isOct_ne {d : UInt8} (hd : isOct d = true) :
    (d == 0x5c) = false ∧ (d == 0x22) = false ∧ (d == 0x6e) = false ∧ (d == 0x74) = false ∧ (d == 0x72) = false ∧
    (d == 0x61) = false ∧ (d == 0x62) = false ∧ (d == 0x66) = false ∧ (d == 0x76) = false :=
  have n := fun c hc => beq_false_of_class (c := c) hd hc
  ⟨n _ rfl, n _ rfl, n _ rfl, n _ rfl, n _ rfl, n _ rfl, n _ rfl, n _ rfl, n _ rfl⟩

/-! ### list-end helpers -/

@[simp] theorem lastIs_append_singleton (b x : UInt8) (l : Bytes) : lastIs b (l ++ [x]) = (x == b) := by
  induction l with
  | nil => rfl
  | cons a l ih =>
    cases l with
    | nil => rfl
    | cons c l => exact ih

@[simp] theorem dropLast_append_singleton (x : UInt8) (l : Bytes) : dropLast (l ++ [x]) = l := by
  induction l with
  | nil => rfl
  | cons a l ih =>
    cases l with
    | nil => rfl
    | cons c l => exact congrArg (a :: ·) ih

theorem lastIs_of_all {b : UInt8} {l : Bytes} (h : ∀ x ∈ l, x ≠ b) : lastIs b l = false := by
  fun_induction lastIs b l with
  | case1 => rfl
  | case2 x => exact decide_eq_false (h x (.head _))
  | case3 _ _ _ ih => exact ih fun x hx => h x (.tail _ hx)

/-! ### exporter representations of a path -/

/-- `Body q p`: the quoted body `q` is an exporter rendering of the path bytes `p`
    (git's `quote_c_style` forms: plain bytes, `\\ \" \n \t \r`, three-digit octal; its letter escapes `\a \b \f \v`
    are left out, the tool's decoder does not know them). -/
inductive Body : Bytes → Bytes → Prop
  | nil : Body [] []
  | plain {b q p} : b ≠ 0x22 → b ≠ 0x5c → Body q p → Body (b :: q) (b :: p)
  | escBs {q p} : Body q p → Body (0x5c :: 0x5c :: q) (0x5c :: p)
  | escDq {q p} : Body q p → Body (0x5c :: 0x22 :: q) (0x22 :: p)
  | escN {q p} : Body q p → Body (0x5c :: 0x6e :: q) (0x0a :: p)
  | escT {q p} : Body q p → Body (0x5c :: 0x74 :: q) (0x09 :: p)
  | escR {q p} : Body q p → Body (0x5c :: 0x72 :: q) (0x0d :: p)
  | oct {a b c q p} : 0x30 ≤ a → a ≤ 0x33 → isOct b = true → isOct c = true → Body q p →
      Body (0x5c :: a :: b :: c :: q) (octVal a b c :: p)

/-- what the tool emits is itself an exporter body -/
theorem body_enqBody (p : Bytes) : Body (enqBody p) p := by
  induction p with
  | nil => exact Body.nil
  | cons b p ih =>
    simp only [enqBody]
    fun_cases enqByte b
    next h => cases of_decide_eq_true h; exact .escDq ih
    next h => cases of_decide_eq_true h; exact .escBs ih
    next h => cases of_decide_eq_true h; exact .escN ih
    next h => cases of_decide_eq_true h; exact .escT ih
    next h => cases of_decide_eq_true h; exact .escR ih
    next =>
      obtain ⟨k1, k2, k3, k4, k5⟩ := enqByte_octal b.toNat b.toNat_lt
      simp only [UInt8.ofNat_toNat] at k1 k2 k3 k4 k5
      have := Body.oct k1 k2 k3 k4 ih
      rwa [k5] at this
    next h1 h2 _ _ _ _ => exact .plain (mt decide_eq_true h1) (mt decide_eq_true h2) ih

theorem oct_done (v : UInt32) (rest : Bytes) :
    deqAux (.oct v 2) rest = v.toUInt8 :: deqAux .normal rest := by
  cases rest <;> rfl

/-- the tool's decoder reads every exporter body back to the path it stands for -/
theorem deq_body {q p : Bytes} (h : Body q p) (rest : Bytes) :
    deqAux .normal (q ++ rest) = p ++ deqAux .normal rest := by
  induction h with
  | nil => rfl
  | @plain b q p _ h2 _ ih => simp [deqAux, show (b == 0x5c) = false from decide_eq_false h2, ih]
  | escBs _ ih | escDq _ ih | escN _ ih | escT _ ih | escR _ ih => simp [deqAux, ih]
  | @oct a b c q p h1 h2 h3 h4 _ ih =>
    obtain ⟨ha, hv⟩ := octVal_facts h1 h2 h3 h4
    simp only [List.cons_append, deqAux, isOct_ne ha, ha, h3, h4,
      Bool.false_eq_true, if_false, if_true, beq_self_eq_true, Nat.zero_lt_succ, decide_true,
      Bool.and_self, Nat.lt_add_one, Nat.reduceAdd, oct_done, hv, ih]

theorem dequote_body {q p : Bytes} (h : Body q p) : dequote q = p := by
  simpa [dequote, deqAux] using deq_body h []

theorem dequote_enqBody (p : Bytes) : dequote (enqBody p) = p := dequote_body (body_enqBody p)

/-- the scanner finds the closing quote right after an exporter body, whatever follows -/
theorem scan_body {q p : Bytes} (h : Body q p) (rest : Bytes) :
    scanClose false (q ++ 0x22 :: rest) = some (q, rest) := by
  induction h with
  | nil => rfl
  | @plain b q p h1 h2 _ ih =>
    have e1 : (b == 0x22) = false := decide_eq_false h1
    have e2 : (b == 0x5c) = false := decide_eq_false h2
    simp [scanClose, e1, e2, ih]
  | escBs _ ih | escDq _ ih | escN _ ih | escT _ ih | escR _ ih => simp [scanClose, ih]
  | @oct a b c q p h1 h2 h3 h4 _ ih =>
    have ha := (octVal_facts h1 h2 h3 h4).1
    simp [scanClose, isOct_ne ha, isOct_ne h3, isOct_ne h4, ih]

/-- git's `unquote_c_style` reads every exporter body back to the same path -/
theorem gitUnq_body {q p : Bytes} (h : Body q p) (rest : Bytes) :
    gitUnq (q ++ 0x22 :: rest) = some (p, rest) := by
  unfold gitUnq
  induction h with
  | nil => rfl
  | @plain b q p h1 h2 _ ih =>
    have e1 : (b == 0x22) = false := decide_eq_false h1
    have e2 : (b == 0x5c) = false := decide_eq_false h2
    simp [gitUnqAux, consRes, e1, e2, ih]
  | escBs _ ih | escDq _ ih | escN _ ih | escT _ ih | escR _ ih => simp [gitUnqAux, consRes, ih]
  | @oct a b c q p h1 h2 h3 h4 _ ih =>
    have ha := (octVal_facts h1 h2 h3 h4).1
    simp [gitUnqAux, consRes, isOct_ne ha, h1, h2, h3, h4, ih]

end Frrs
