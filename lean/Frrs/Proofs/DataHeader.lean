/-
  Frrs.Proofs.DataHeader — the length header the filter writes (`dataHeader n` = `data <n>\n`) is read back by the filter's
  own header parser (`parse_data_size_header`: UTF-8 check, Unicode trim, optional `+`, digits, 500 MB limit) as `n`.
-/
import Frrs.Proofs.Decimal
import Frrs.Proofs.ByteClass
import Frrs.Proofs.Bytes
import Frrs.Filter
namespace Frrs

theorem parseUsizeTrim_natToDec (n : Nat) : parseUsizeTrim (natToDec n ++ [B.lf]) = some n := by
  obtain ⟨hne, hd, hv⟩ := natToDec_digits n
  generalize natToDec n = ds at hne hd hv
  have hg : ∀ b ∈ ds, isGraphic b = true := fun b hb => graphic_of_digit (hd b hb)
  cases ds with
  | nil => exact absurd rfl hne
  | cons b r =>
    have hvalid : utf8Valid ((b :: r) ++ [B.lf]) = true := utf8Valid_ascii _ fun x hx => by
      rcases List.mem_append.mp hx with hx | hx
      · exact graphic_le_7f (hg x hx)
      · rw [List.mem_singleton.mp hx]; decide
    have htrim : trim ((b :: r) ++ [B.lf]) = b :: r := by
      rw [trim, List.cons_append, trimStart_graphic (hg b (by simp)), ← List.cons_append, trimEnd_blank _ (by decide)]
      exact (trim_graphic _ hg).1
    simp only [parseUsizeTrim, hvalid, htrim, digit_ne_plus (hd b (by simp)), Bool.not_true, Bool.false_eq_true, if_false, List.isEmpty_cons,
      allDigits_of hd, Bool.or_self, hv]

/-- **round trip of the length header** -/
theorem parseDataHeader_dataHeader (n : Nat) (hn : n ≤ maxDataBlock) : parseDataHeader (dataHeader n) = some n := by
  rw [parseDataHeader, dataHeader, List.append_assoc, stripPrefix?_append]
  simp only [parseUsizeTrim_natToDec]
  exact if_neg (Nat.not_lt.mpr hn)

end Frrs
