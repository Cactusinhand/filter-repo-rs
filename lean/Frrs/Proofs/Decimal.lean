/-
  Frrs.Proofs.Decimal — the decimal rendering of marks and lengths (`natToDec`) is a non-empty digit string whose value
  (`decVal`) is the number, and the saturating digit parser (`satDigits`, the `u32` parser used for `mark :N`, `from :N`,
  `alias`) reads a digit string as its value capped at `u32Max`: hence a rendered number that fits `u32` as itself.
-/
import Frrs.Identity
namespace Frrs

/-- the last decimal digit of `n` as `natToDecAux` writes it -/
theorem digit_mod (n : Nat) :
    isDigit (UInt8.ofNat (48 + n % 10)) = true ∧ (UInt8.ofNat (48 + n % 10)).toNat - 48 = n % 10 :=
  (by decide : ∀ d : Fin 10, isDigit (UInt8.ofNat (48 + d.val)) = true ∧ (UInt8.ofNat (48 + d.val)).toNat - 48 = d.val)
    ⟨n % 10, Nat.mod_lt _ (by decide)⟩

theorem allDigits_of {ds : Bytes} (h : ∀ b ∈ ds, isDigit b = true) : allDigits ds = true := by
  induction ds with
  | nil => rfl
  | cons b r ih => simp [allDigits, h b (by simp), ih (fun x hx => h x (by simp [hx]))]

theorem decVal_append (v : Nat) (xs ys : Bytes) : decVal v (xs ++ ys) = decVal (decVal v xs) ys := by
  induction xs generalizing v with
  | nil => rfl
  | cons b r ih => exact ih _

/-- `natToDecAux` puts a digit string of value `n` in front of the accumulator -/
theorem natToDecAux_spec (fuel n : Nat) (acc : Bytes) (hn : n < 10 ^ fuel) (hf : fuel ≠ 0) :
    ∃ ds : Bytes, natToDecAux fuel n acc = ds ++ acc ∧ ds ≠ [] ∧ (∀ b ∈ ds, isDigit b = true) ∧ decVal 0 ds = n := by
  fun_induction natToDecAux fuel n acc with
  | case1 => exact absurd rfl hf
  | case2 fuel n acc d h0 =>
    have hd : isDigit d = true ∧ d.toNat - 48 = n % 10 := digit_mod n
    refine ⟨[d], rfl, List.cons_ne_nil _ _, fun b hb => List.mem_singleton.mp hb ▸ hd.1, ?_⟩
    show 0 * 10 + (d.toNat - 48) = n
    rw [hd.2]
    exact eq_of_beq h0 ▸ Nat.div_add_mod' n 10
  | case3 fuel n acc d h0 ih =>
    have hd : isDigit d = true ∧ d.toNat - 48 = n % 10 := digit_mod n
    rw [Nat.pow_succ'] at hn
    obtain ⟨ds, h1, -, h3, h4⟩ :=
      ih (Nat.div_lt_of_lt_mul hn) (by rintro rfl; exact h0 (beq_iff_eq.mpr (Nat.div_eq_of_lt hn)))
    refine ⟨ds ++ [d], by rw [h1, List.append_assoc]; rfl, by simp, ?_, ?_⟩
    · intro b hb
      rcases List.mem_append.mp hb with hb | hb
      · exact h3 b hb
      · exact List.mem_singleton.mp hb ▸ hd.1
    · rw [decVal_append, h4]
      show n / 10 * 10 + (d.toNat - 48) = n
      rw [hd.2]
      exact Nat.div_add_mod' n 10

theorem natToDec_digits (n : Nat) : natToDec n ≠ [] ∧ (∀ b ∈ natToDec n, isDigit b = true) ∧ decVal 0 (natToDec n) = n := by
  have hn : n < 10 ^ (n + 1) :=
    Nat.lt_of_lt_of_le (Nat.lt_pow_self (by decide)) (Nat.pow_le_pow_right (by decide) (Nat.le_succ n))
  obtain ⟨ds, h1, h⟩ := natToDecAux_spec (n + 1) n [] hn (Nat.succ_ne_zero n)
  rw [natToDec, h1, List.append_nil]
  exact h

/-- saturating after every step is saturating once at the end -/
theorem sat_step (m v d : Nat) : min m (min m (min m v * 10) + d) = min m (v * 10 + d) := by
  rcases Nat.le_total v m with h | h
  · rw [Nat.min_eq_right h]
    rcases Nat.le_total (v * 10) m with h2 | h2
    · rw [Nat.min_eq_right h2]
    · rw [Nat.min_eq_left h2, Nat.min_eq_left (Nat.le_add_right m d), Nat.min_eq_left (Nat.le_trans h2 (Nat.le_add_right _ d))]
  · rw [Nat.min_eq_left h, Nat.min_eq_left (Nat.le_mul_of_pos_right m (by decide)), Nat.min_eq_left (Nat.le_add_right m d),
      Nat.min_eq_left (by omega)]

/-- the saturating parser reads a run of digits as its value capped at `u32Max` -/
theorem satDigitsAux_digits (xs ys : Bytes) (v : Nat) (seen : Bool) (hx : ∀ b ∈ xs, isDigit b = true) :
    satDigitsAux (min u32Max v) seen (xs ++ ys) = satDigitsAux (min u32Max (decVal v xs)) (!xs.isEmpty || seen) ys := by
  induction xs generalizing v seen with
  | nil => rfl
  | cons b r ih =>
    rw [List.cons_append, satDigitsAux, if_pos (hx b (by simp)), sat_step, ih _ true fun x hx' => hx x (by simp [hx']),
      Bool.or_true]
    rfl

/-- **round trip**: a rendered number, followed by anything that does not start with a digit, is read back as that number -/
theorem satDigits_natToDec (n : Nat) (rest : Bytes) (hn : n ≤ u32Max)
    (hr : ∀ b ∈ rest.head?, isDigit b = false) : satDigits (natToDec n ++ rest) = some n := by
  obtain ⟨hne, hd, hv⟩ := natToDec_digits n
  have := satDigitsAux_digits (natToDec n) rest 0 false hd
  rw [hv, Nat.min_eq_right hn, Bool.or_false, List.isEmpty_eq_false_iff.mpr hne] at this
  rw [satDigits, show (0 : Nat) = min u32Max 0 from rfl, this]
  cases rest with
  | nil => rfl
  | cons b t => simp [satDigitsAux, hr b rfl]

end Frrs
