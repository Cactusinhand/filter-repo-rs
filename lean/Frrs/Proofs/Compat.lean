/-
  Frrs.Proofs.Compat — under `compat n r` a single pass of `replace_all_bytes` leaves no occurrence of `n`, and no
  pass that inserts `r` brings `n` back (C07): an occurrence cannot touch an inserted `r` (`occurs_around_r`).
-/
import Frrs.Proofs.Replace
namespace Frrs

/-- what the decidable `compat n r` (Frrs/Replace.lean) establishes: the replacement is not empty, does not contain the
    literal, and neither can be continued into the other across a border -/
structure Compat (n r : Bytes) : Prop where
  r_ne : r ≠ []
  not_in_r : ¬ Occurs n r
  /-- no non-empty suffix of `r` (incl. `r` itself) is a prefix of `n` -/
  suffix_r : ∀ a c, r = a ++ c → c ≠ [] → startsWith n c = false
  /-- no proper non-empty suffix of `n` is a prefix of `r` -/
  suffix_n : ∀ c d, n = c ++ d → c ≠ [] → d ≠ [] → startsWith r d = false
  /-- `r` is not a prefix of a proper suffix of `n` -/
  r_in_n : ∀ c d, n = c ++ d → c ≠ [] → startsWith d r = false

/-- a test made at every offset of `l` holds of every non-empty suffix of `l` -/
theorem all_range_drop {l : Bytes} {q : Nat → Bytes → Bool}
    (h : (List.range l.length).all (fun i => q i (l.drop i)) = true) {a c : Bytes} (e : l = a ++ c)
    (hc : c ≠ []) : q a.length c = true := by
  subst e
  have := List.all_eq_true.1 h a.length (List.mem_range.2 (by
    rw [List.length_append]; exact Nat.lt_add_of_pos_right (List.length_pos_iff.2 hc)))
  rwa [List.drop_left] at this

theorem compat_sound {n r : Bytes} (h : compat n r = true) : Compat n r := by
  simp only [compat, Bool.and_eq_true, Bool.not_eq_true'] at h
  obtain ⟨⟨⟨⟨h1, h2⟩, h3⟩, h4⟩, h5⟩ := h
  have hr : r ≠ [] := mt List.isEmpty_iff.2 (Bool.eq_false_iff.1 h1)
  refine ⟨hr, findSub_none (Option.not_isSome_iff_eq_none.1 (Bool.eq_false_iff.1 h2)), ?_, ?_, ?_⟩
  · intro a c e hc
    simpa using all_range_drop (q := fun _ d => !startsWith n d) h3 e hc
  · intro c d e hc hd
    simpa [hc] using all_range_drop (q := fun i d => i == 0 || !startsWith r d) h4 e hd
  · intro c d e hc
    by_cases hd : d = []
    · subst hd
      cases r with
      | nil => exact absurd rfl hr
      | cons => rfl
    · simpa [hc] using all_range_drop (q := fun i d => i == 0 || !startsWith d r) h5 e hd

set_option linter.unusedVariables false in
/-- an occurrence of `n` in `x ++ r ++ y` cannot touch the inserted `r`
    (`hn` is not needed: the empty literal occurs in `x`) -/
theorem occurs_around_r {n r : Bytes} (hc : Compat n r) (hn : n ≠ []) (x y : Bytes)
    (h : Occurs n (x ++ r ++ y)) : Occurs n x ∨ Occurs n y := by
  obtain ⟨u, v, e⟩ := h
  rw [List.append_assoc, List.append_assoc] at e
  rcases List.append_eq_append_iff.1 e with ⟨a, hu, hry⟩ | ⟨c, hx, hnv⟩
  · -- the occurrence starts at or after the end of x:  r ++ y = a ++ (n ++ v)
    rcases List.append_eq_append_iff.1 hry with ⟨a', ha, hy⟩ | ⟨c, hr, hnv⟩
    · -- a = r ++ a' : entirely inside y
      right; exact ⟨a', v, by rw [hy]; simp⟩
    · -- r = a ++ c, n ++ v = c ++ y : starts inside r (c = the rest of r)
      by_cases hce : c = []
      · subst hce
        right; exact ⟨[], v, by simpa using hnv.symm⟩
      · exfalso
        rcases List.append_eq_append_iff.1 hnv with ⟨c', hcc, _⟩ | ⟨d, hnd, _⟩
        · -- c = n ++ c' : n lies inside r
          exact hc.not_in_r ⟨a, c', by rw [hr, hcc]; simp⟩
        · -- n = c ++ d : a non-empty suffix of r is a prefix of n
          exact startsWith_false_of (hc.suffix_r a c hr hce) ⟨d, hnd⟩
  · -- the occurrence starts inside x:  x = u ++ c,  n ++ v = c ++ (r ++ y)
    rcases List.append_eq_append_iff.1 hnv with ⟨e', hce, _⟩ | ⟨d, hnd, hdv⟩
    · -- c = n ++ e' : entirely inside x
      left; exact ⟨u, e', by rw [hx, hce]; simp⟩
    · -- n = c ++ d,  d ++ v = r ++ y : the tail d of n meets the start of r
      by_cases hce : c = []
      · -- starts exactly where r starts
        subst hce
        simp only [List.nil_append] at hnd
        subst hnd
        exfalso
        rcases List.append_eq_append_iff.1 hdv with ⟨r', hrr, _⟩ | ⟨d', hnr, _⟩
        · -- n = r ++ r' : r itself is a prefix of n
          exact startsWith_false_of (hc.suffix_r [] r (by simp) hc.r_ne) ⟨r', hrr⟩
        · -- r = n ++ d' : n lies inside r
          exact hc.not_in_r ⟨[], d', by simpa using hnr⟩
      · by_cases hde : d = []
        · subst hde
          left; exact ⟨u, [], by rw [hx, hnd]; simp⟩
        · exfalso
          rcases List.append_eq_append_iff.1 hdv with ⟨r', hrr, _⟩ | ⟨d', hdr, _⟩
          · -- d = r ++ r' : r is a prefix of a proper suffix of n
            exact startsWith_false_of (hc.r_in_n c d hnd hce) ⟨r', hrr⟩
          · -- r = d ++ d' : a proper suffix of n is a prefix of r
            exact startsWith_false_of (hc.suffix_n c d hnd hce hde) ⟨d', hdr⟩

/-- **C07 core**: whatever the declarative meaning produces contains no occurrence of the literal -/
theorem repl_clean {n r h out : Bytes} (hc : Compat n r) (hn : n ≠ []) (hr : Repl n r h out) :
    ¬ Occurs n out := by
  induction hr with
  | done hno => exact hno
  | @step pre post out' hf _ ih =>
    intro ho
    rcases occurs_around_r hc hn pre out' ho with ⟨a, b, e⟩ | h1
    · -- an occurrence inside `pre` would start before the first one
      have := hf a (n ++ b) (by rw [e, List.append_assoc]) (by simp [hn])
      rw [List.append_assoc, startsWith_append_self] at this
      cases this
    · exact ih h1

/-- … and a literal `n'` that is compatible with `r` and absent from the input is absent from the
    output, whatever literal `n` is being replaced -/
theorem repl_stays_clean {n' n r h out : Bytes} (hc : Compat n' r) (hn' : n' ≠ [])
    (hr : Repl n r h out) (hclean : ¬ Occurs n' h) : ¬ Occurs n' out := by
  induction hr with
  | done _ => exact hclean
  | @step pre post out' _ _ ih =>
    -- an occurrence in the output lies in `pre` or in `out'`, hence (induction) in `pre` or in `post`
    intro ho
    rcases occurs_around_r hc hn' pre out' ho with ⟨a, b, e⟩ | h1
    · exact hclean ⟨a, b ++ n ++ post, by simp [e]⟩
    · exact ih (fun ⟨a, b, e⟩ => hclean ⟨pre ++ n ++ a, b, by simp [e]⟩) h1

end Frrs
