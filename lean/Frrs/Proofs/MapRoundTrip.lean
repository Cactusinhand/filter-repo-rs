/-
  Frrs.Proofs.MapRoundTrip — the commit-map one run writes is what the next run reads: `ShMap.ofFile` applied to the
  rendering `old SP new LF …` of a list of id pairs yields exactly those pairs (lower-cased), in order.
-/
import Frrs.ShortHash
import Frrs.Proofs.ByteClass
namespace Frrs

def HexStr (s : Bytes) : Prop := s ≠ [] ∧ ∀ b ∈ s, isHexDigit b = true

theorem hex_not_sep {b : UInt8} (h : isHexDigit b = true) :
    (b == B.sp) = false ∧ (b == B.lf) = false ∧ (b == B.cr) = false :=
  ⟨beq_false_of_class h (by decide), beq_false_of_class h (by decide), beq_false_of_class h (by decide)⟩

/-- the lines `old SP new LF` of a commit-map file (`Filter.commitMap` writes this shape) -/
def renderMap (ps : List (Bytes × Bytes)) : Bytes := (ps.map fun p => p.1 ++ [B.sp] ++ p.2 ++ [B.lf]).flatten

/-- the entry `ShMap.addLine` records for such a line -/
def ShMap.push (m : ShMap) (p : Bytes × Bytes) : ShMap :=
  { olds := m.olds ++ [lowerAll p.1],
    lookup := (lowerAll p.1, if p.2 == nullOid then none else some (lowerAll p.2)) :: m.lookup }

theorem dropWhile_eol_hex (l : Bytes) (h : ∀ b ∈ l, isHexDigit b = true) :
    l.dropWhile (fun b => b == B.lf || b == B.cr) = l := by
  cases l with
  | nil => rfl
  | cons b r =>
    obtain ⟨_, h2, h3⟩ := hex_not_sep (h b (by simp))
    simp [List.dropWhile, h2, h3]

theorem stripEol_line (old new : Bytes) (hn : HexStr new) : stripEol (old ++ B.sp :: new) = old ++ B.sp :: new := by
  obtain ⟨t, b, rfl⟩ := (List.eq_nil_or_concat new).resolve_left hn.1
  obtain ⟨_, h2, h3⟩ := hex_not_sep (hn.2 b (by simp))
  simp [stripEol, h2, h3]

theorem addLine_pair (m : ShMap) (p : Bytes × Bytes) (h1 : HexStr p.1) (h2 : HexStr p.2) :
    m.addLine (p.1 ++ B.sp :: p.2) = (m.push p, true) := by
  have hsp := splitAtFirst_first p.1 B.sp p.2 (fun b hb => (hex_not_sep (h1.2 b hb)).1) rfl
  simp only [ShMap.addLine, stripEol_line p.1 p.2 h2, hsp, List.isEmpty_eq_false_iff.mpr h1.1,
    List.isEmpty_eq_false_iff.mpr h2.1, List.isEmpty_eq_false_iff.mpr (List.append_ne_nil_of_left_ne_nil h1.1 _), ShMap.push]
  simp

theorem addLines_render (ps : List (Bytes × Bytes)) (h : ∀ p ∈ ps, HexStr p.1 ∧ HexStr p.2) (m : ShMap) :
    ShMap.addLines m (splitOn B.lf (renderMap ps)) = (ps.foldl ShMap.push m, !ps.isEmpty) := by
  induction ps generalizing m with
  | nil => rfl
  | cons p r ih =>
    obtain ⟨h1, h2⟩ := h p (by simp)
    have hlf : ∀ b ∈ p.1 ++ B.sp :: p.2, (b == B.lf) = false := by
      intro b hb
      rcases List.mem_append.mp hb with hb | hb
      · exact (hex_not_sep (h1.2 b hb)).2.1
      · rcases List.mem_cons.mp hb with rfl | hb
        · decide
        · exact (hex_not_sep (h2.2 b hb)).2.1
    have hr : renderMap (p :: r) = (p.1 ++ B.sp :: p.2) ++ B.lf :: renderMap r := by
      simp [renderMap]
    rw [hr, splitOn_line B.lf _ _ hlf]
    simp only [ShMap.addLines, addLine_pair m p h1 h2, ih (fun q hq => h q (by simp [hq])) (m.push p)]
    simp

/-- **what one run writes the next run reads**: the rendering of id pairs is read back as exactly those pairs -/
theorem ofFile_renderMap (ps : List (Bytes × Bytes)) (h : ∀ p ∈ ps, HexStr p.1 ∧ HexStr p.2) (hne : ps ≠ []) :
    ShMap.ofFile (renderMap ps) = some (ps.foldl ShMap.push {}) := by
  simp [ShMap.ofFile, addLines_render ps h {}, List.isEmpty_eq_false_iff.mpr hne]

end Frrs
