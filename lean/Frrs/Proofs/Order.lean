/-
  Frrs.Proofs.Order — `bytesLt` (the byte-wise lexicographic order used wherever the code sorts names)
  is core's order on `List UInt8`, a strict total order; `minName` picks its least element and is
  therefore insensitive to the order in which the names are supplied (HashMap iteration order).
-/
import Frrs.Finalize
namespace Frrs

/-- `bytesLt` decides core's lexicographic `<` (where `a ≤ b` is `¬ b < a`), so the order facts are core's -/
theorem bytesLt_iff {a b : Bytes} : bytesLt a b = true ↔ a < b := by
  fun_induction bytesLt a b with
  | case1 | case2 | case3 => simp
  | case4 a as b bs h => simp [List.cons_lt_cons_iff, h]
  | case5 a as b bs h1 h2 =>
    have : a ≠ b := by rintro rfl; exact h1 h2
    simp [List.cons_lt_cons_iff, h1, this]
  | case6 a as b bs h1 h2 ih =>
    have : a = b := UInt8.le_antisymm (UInt8.not_lt.1 h2) (UInt8.not_lt.1 h1)
    simp [this, ih]

theorem bytesLt_irrefl (a : Bytes) : bytesLt a a = false :=
  Bool.eq_false_iff.2 fun h => List.lt_irrefl a (bytesLt_iff.1 h)

theorem bytesLt_asymm {a b : Bytes} (h : bytesLt a b = true) : bytesLt b a = false :=
  Bool.eq_false_iff.2 fun h' => List.lt_asymm (bytesLt_iff.1 h) (bytesLt_iff.1 h')

theorem bytesLt_trans {a b c : Bytes} (h1 : bytesLt a b = true) (h2 : bytesLt b c = true) : bytesLt a c = true :=
  bytesLt_iff.2 (List.lt_trans (bytesLt_iff.1 h1) (bytesLt_iff.1 h2))

theorem bytesLt_trichotomy (a b : Bytes) : bytesLt a b = true ∨ a = b ∨ bytesLt b a = true := by
  simp only [bytesLt_iff]
  exact Std.lt_trichotomy a b

theorem minName_eq_none {l : List Bytes} (h : minName l = none) : l = [] := by
  fun_induction minName l
  case case1 => rfl
  all_goals cases h

theorem minName_least {l : List Bytes} {m : Bytes} (h : minName l = some m) : m ∈ l ∧ ∀ x ∈ l, m ≤ x := by
  fun_induction minName l generalizing m with
  | case1 => cases h
  | case2 x r m' hr hlt ih =>
    cases h
    obtain ⟨hmem, hle⟩ := ih hr
    exact ⟨.tail _ hmem, List.forall_mem_cons.2 ⟨List.le_of_lt (bytesLt_iff.1 hlt), hle⟩⟩
  | case3 x r m' hr hlt ih =>
    cases h
    obtain ⟨_, hle⟩ := ih hr
    have hx : x ≤ m' := mt bytesLt_iff.2 hlt
    exact ⟨.head _, List.forall_mem_cons.2 ⟨List.le_refl _, fun y hy => List.le_trans hx (hle y hy)⟩⟩
  | case4 x r hr ih =>
    cases h
    rw [minName_eq_none hr]
    exact ⟨.head _, List.forall_mem_cons.2 ⟨List.le_refl _, nofun⟩⟩

/-- and the least element is unique: `minName l` is the member of `l` that nothing in `l` sorts before -/
theorem minName_eq_some {l : List Bytes} {m : Bytes} : minName l = some m ↔ m ∈ l ∧ ∀ x ∈ l, m ≤ x := by
  refine ⟨minName_least, fun ⟨hmem, hle⟩ => ?_⟩
  cases h : minName l with
  | none => rw [minName_eq_none h] at hmem; cases hmem
  | some m' =>
    obtain ⟨hmem', hle'⟩ := minName_least h
    rw [List.le_antisymm (hle' m hmem) (hle m' hmem')]

/-- so it does not depend on the order of the list -/
theorem minName_perm {l₁ l₂ : List Bytes} (h : l₁.Perm l₂) : minName l₁ = minName l₂ :=
  Option.ext fun m => by simp only [minName_eq_some, h.mem_iff]

end Frrs
