/-
  Frrs.Proofs.Loop — the main loop only moves forward.

  One iteration (`Filter.step`) either fails or goes on with a state that extends the one it started from (`Ext`: what was
  written, recorded or emitted stays) and with a suffix of the input it was given (`Outcome.Adv`, `step_adv`). Two
  consequences for a whole run, for every input, option set and fuel: the fuel bound is never what ends it
  (`run_fuel_irrelevant`), and what it reports extends every intermediate state (`loop_resExt`).
-/
import Frrs.Proofs.Reader
namespace Frrs

/-- `s'` extends `s`: the recorded pairs, the output, the ref renames, `done` once seen and the emitted marks are kept
    (the first two as suffix and prefix: the run is an append-only log). `ainv` is of another kind: it carries the
    alias invariant of C02 along, which a step preserves but does not establish. -/
structure Ext (s s' : FState) : Prop where
  pairs : s.pairs <:+ s'.pairs
  out : s.out <+: s'.out
  ren : ∀ x ∈ s.refRenames, x ∈ s'.refRenames
  done : s.sawDone = true → s'.sawDone = true
  emitted : ∀ m ∈ s.emitted, m ∈ s'.emitted
  /-- every alias points at a mark that was emitted: preserved -/
  ainv : (∀ p ∈ s.alias, p.2 ∈ s.emitted) → (∀ p ∈ s'.alias, p.2 ∈ s'.emitted)

namespace Ext
variable {s s' : FState}

theorem trans {a b c : FState} (h1 : Ext a b) (h2 : Ext b c) : Ext a c :=
  ⟨h1.pairs.trans h2.pairs, h1.out.trans h2.out, fun x hx => h2.ren x (h1.ren x hx), fun h => h2.done (h1.done h),
   fun m hm => h2.emitted m (h1.emitted m hm), fun h => h2.ainv (h1.ainv h)⟩

/-- with the recorded pairs and the alias table untouched, everything else may grow -/
theorem grow (hp : s'.pairs = s.pairs) (ha : s'.alias = s.alias) (ho : s.out <+: s'.out)
    (hr : ∀ x ∈ s.refRenames, x ∈ s'.refRenames) (hd : s.sawDone = true → s'.sawDone = true)
    (he : ∀ m ∈ s.emitted, m ∈ s'.emitted) : Ext s s' :=
  ⟨hp ▸ List.suffix_refl _, ho, hr, hd, he, fun h p hp => he _ (h p (ha ▸ hp))⟩

/-- a step that only writes: `b` is appended to the output, the other five fields are untouched. The hypothesis is one
    equation of six-tuples so that a caller closes it by `rfl` whatever else the step changes in the 26-field state. -/
theorem wrote {b : Bytes}
    (h : (s'.pairs, s'.alias, s'.out, s'.refRenames, s'.sawDone, s'.emitted) =
         (s.pairs, s.alias, s.out ++ b, s.refRenames, s.sawDone, s.emitted)) : Ext s s' := by
  simp only [Prod.mk.injEq] at h
  obtain ⟨h1, h2, h3, h4, h5, h6⟩ := h
  exact grow h1 h2 (h3 ▸ List.prefix_append _ _) (fun _ hx => h4 ▸ hx) (fun hd => h5 ▸ hd) (fun _ hm => h6 ▸ hm)

/-- a step that touches none of the six fields `Ext` speaks about -/
theorem frame
    (h : (s'.pairs, s'.alias, s'.out, s'.refRenames, s'.sawDone, s'.emitted) =
         (s.pairs, s.alias, s.out, s.refRenames, s.sawDone, s.emitted)) : Ext s s' :=
  wrote (b := []) (by rwa [List.append_nil])

theorem refl (s : FState) : Ext s s := frame rfl

theorem ite {c : Prop} [Decidable c] {a b : FState} (ha : Ext s a) (hb : Ext s b) : Ext s (if c then a else b) := by
  split
  · exact ha
  · exact hb

end Ext

theorem mem_setInsert_of_mem {x y : Bytes × Bytes} {l : List (Bytes × Bytes)} (h : y ∈ l) : y ∈ setInsert x l := by
  fun_induction setInsert x l with
  | case1 => cases h
  | case2 => exact .tail _ h
  | case3 z r _ _ ih =>
    rcases List.mem_cons.mp h with rfl | h
    · exact .head _
    · exact .tail _ (ih h)
  | case4 => exact h

/-! ### the end of a commit -/

section
variable {o : FOpts} {s : FState} {e : CommitEnd}

theorem recordKept_ext : Ext s (recordKept s e) := by
  unfold recordKept
  dsimp only
  split
  · -- one pair more and the commit written; renames, `done`, emitted marks and the alias table (hence `ainv`) untouched
    exact ⟨List.suffix_cons _ _, List.prefix_append _ _, fun _ h => h, fun h => h, fun _ h => h, fun h => h⟩
  · exact .wrote rfl

theorem recordZeroPair_ext : Ext s (recordZeroPair s) := by
  unfold recordZeroPair
  split
  · exact ⟨List.suffix_cons _ _, List.prefix_refl _, fun _ h => h, fun h => h, fun _ h => h, fun h => h⟩   -- one pair more
  · exact .refl s

theorem aliasDropped_ext : Ext s (aliasDropped s e) := by
  unfold aliasDropped
  split
  · dsimp only
    split
    · rename_i hem
      -- the alias stanza is written and the table gains an entry: the only step that has to re-establish `ainv`
      refine ⟨List.suffix_refl _, List.prefix_append _ _, fun _ h => h, fun h => h, fun _ h => h, ?_⟩
      -- the new alias points at the canonical parent, which is emitted (the `if` just checked it)
      intro h p hp
      rcases List.mem_cons.mp hp with rfl | hp
      · exact List.contains_iff_mem.mp hem
      · exact h p hp
    · exact .refl s
  · exact .refl s

theorem closeCommitState_ext : Ext s (closeCommitState s) := by
  unfold closeCommitState
  dsimp only
  split
  · exact .grow rfl rfl (List.prefix_refl _) (fun _ h => h) id (fun _ h => List.mem_cons_of_mem _ h)
  · exact .frame rfl

theorem endCommit_ext : Ext s (endCommit o s) :=
  (Ext.frame rfl : Ext s { s with firstParentMark := (commitEndInfo s).firstParent }).trans <|
    (Ext.ite recordKept_ext (recordZeroPair_ext.trans aliasDropped_ext)).trans closeCommitState_ext

end

/-! ### one iteration -/

/-- one iteration only moves forward: the state grows, and what is left of the input is a suffix of what was there -/
def Outcome.Adv (s : FState) (inp : Bytes) : Outcome → Prop
  | .fail => True
  | .cont s' inp' => Ext s s' ∧ inp' <:+ inp

namespace Outcome.Adv
variable {s s' : FState} {inp : Bytes}

theorem cont (h : Ext s s') : (Outcome.cont s' inp).Adv s inp := ⟨h, List.suffix_refl _⟩

/-- after a successful `read_exact` -/
theorem read {n : Nat} {p r : Bytes} (hr : readExact n inp = some (p, r)) (h : Ext s s') :
    (Outcome.cont s' r).Adv s inp :=
  ⟨h, readExact_suffix hr⟩

/-- a step made from a later state moves forward from the earlier one as well -/
theorem of_ext {s1 : FState} {out : Outcome} (hs : Ext s s1) (h : out.Adv s1 inp) : out.Adv s inp := by
  cases out with
  | fail => trivial
  | cont s' i => exact ⟨hs.trans h.1, h.2⟩

/-- and so does a step made on what is left of the input -/
theorem of_suffix {inp1 : Bytes} {out : Outcome} (hi : inp1 <:+ inp) (h : out.Adv s inp1) : out.Adv s inp := by
  cases out with
  | fail => trivial
  | cont s' i => exact ⟨h.1, h.2.trans hi⟩

end Outcome.Adv
open Outcome.Adv (cont read of_ext of_suffix)

/- `fun_cases f …` hands over one goal per branch of `f`, with the conditions on the way as hypotheses and the `let`s as local
   definitions; nothing in the 26-field states is rewritten. -/

section
variable {o : FOpts} {s s' : FState} {line inp : Bytes}

theorem commitLine_adv : (commitLine o s line inp).Adv s inp := by
  fun_cases commitLine o s line inp
  case case3 | case4 => trivial                         -- a `data` header that does not parse, a message cut short
  case case5 => exact read ‹_› (.frame rfl)             -- the message, read by its length
  case case6 =>                                         -- `from`: the first parent is noted if none was
    dsimp +zetaDelta only
    split <;> exact cont (.frame rfl)
  all_goals exact cont (.frame rfl)                     -- every other line is buffered: none of the six fields changes

theorem inlinePayload_adv : (inlinePayload o s line inp).Adv s inp := by
  fun_cases inlinePayload o s line inp
  case case2 | case3 => exact read ‹_› (.frame rfl)     -- the payload read: too big (a `D` line instead) or rewritten
  all_goals trivial                                     -- no payload pending, no length, or a payload cut short: the run fails

theorem mDropOf_ext (h : mDropOf o s line = some s') : Ext s s' := by
  revert h
  fun_cases mDropOf o s line
  case case3 | case4 => nofun
  all_goals                                             -- an `inline` id is noted first
    intro h; injection h with h; subst h
    dsimp +zetaDelta only
    split <;> exact .frame rfl

/-- `tailRules` is where the six fields change -/
theorem tailRules_adv : (tailRules o s line inp).Adv s inp := by
  fun_cases tailRules o s line inp
  case case1 | case2 => trivial
  case case3 =>                                         -- a stripped blob
    dsimp +zetaDelta only
    split <;> exact read ‹_› (.frame rfl)
  case case4 =>                                         -- a kept blob: written, its mark emitted
    dsimp +zetaDelta only
    split
    · exact read ‹_› (.grow rfl rfl (List.prefix_append _ _) (fun _ h => h) id fun _ h => .tail _ h)
    · exact read ‹_› (.wrote rfl)
  case case5 => exact read ‹_› (.wrote rfl)
  case case6 =>                                         -- `done`
    exact cont (.grow rfl rfl ((List.prefix_append _ _).trans (List.prefix_append _ _)) (fun _ h => h) (fun _ => rfl)
      fun _ h => h)
  case case7 =>                                         -- a tag reset under `--tag-rename`
    exact cont (.grow rfl rfl (List.prefix_refl _) (fun _ => mem_setInsert_of_mem) id fun _ h => h)
  case case8 | case10 => exact cont (.frame rfl)
  case case9 x =>                                       -- a branch reset
    split at x <;> cases x
    · exact cont (.grow rfl rfl (List.prefix_append _ _) (fun _ => mem_setInsert_of_mem) id fun _ h => h)
    · exact cont (.wrote rfl)
  case case11 => exact cont (.wrote rfl)

theorem tagBlock_adv {tagname : Bytes} {f : Nat} {hdrs : List Bytes} :
    (tagBlock o s tagname f hdrs inp).Adv s inp := by
  fun_induction tagBlock o s tagname f hdrs inp
  case case1 => exact cont (.refl s)
  all_goals refine of_suffix (readLine_suffix ‹_›) ?_   -- every other branch starts by reading a line
  case case2 => exact cont (.refl s)
  case case3 | case4 => trivial
  case case5 => exact read ‹_› (.refl s)
  case case6 =>                                         -- a new tag: written, its name noted, its header's marks emitted
    refine read ‹_› ?_
    dsimp +zetaDelta only
    split
    · exact .grow rfl rfl (List.prefix_append _ _) (fun _ => mem_setInsert_of_mem) id fun _ h => List.mem_append_right _ h
    · exact .grow rfl rfl (List.prefix_append _ _) (fun _ h => h) id fun _ h => List.mem_append_right _ h
  case case7 ih => exact ih

theorem stepInCommit_adv : (stepInCommit o s line inp).Adv s inp := by
  fun_cases stepInCommit o s line inp
  case case1 => exact inlinePayload_adv
  case case2 => exact cont (mDropOf_ext ‹_›)
  all_goals                                             -- `s1`: the state after an `inline` id was noted, or `s`
    rename_i s1 _
    refine of_ext (.ite (.frame rfl) (.refl s) : Ext s s1) ?_
  · exact of_ext endCommit_ext tailRules_adv            -- the blank line that ends the commit
  · exact commitLine_adv                                -- any other line of the commit

theorem stepCommit_adv : (stepCommit o s line inp).Adv s inp := by
  fun_cases stepCommit o s line inp                     -- rule 11a comes first: a new object ends the open commit
  · exact of_ext (.ite endCommit_ext (.refl s)) stepInCommit_adv    -- then, still inside a commit
  · exact of_ext (.ite endCommit_ext (.refl s)) tailRules_adv       -- or outside

theorem flushPendingTagReset_ext : Ext s (flushPendingTagReset s) := by
  fun_cases flushPendingTagReset s
  · exact .wrote rfl
  · exact .refl s

theorem captureBranchReset_ext {isFrom : Bool} : Ext s (captureBranchReset s isFrom line) := by
  fun_cases captureBranchReset s isFrom line
  all_goals exact .frame rfl

theorem openCommit_ext : Ext s (openCommit o s line) := by
  fun_cases openCommit o s line
  rename_i s1 x _ s2          -- `x : (hdr, s1) = match renameRef … `: the header and the state with the rename recorded; `s2` after `e2`
  have e1 : Ext s s1 := by                              -- the ref renamed, or not
    split at x <;> cases x
    · exact .grow rfl rfl (List.prefix_refl _) (fun _ => mem_setInsert_of_mem) id fun _ h => h
    · exact .refl s
  have e2 : Ext s1 s2 := .ite (.frame rfl) (.refl s1)   -- a branch noted as updated
  exact (e1.trans e2).trans (.frame rfl)

theorem stepObjects_adv {fuel : Nat} : (stepObjects o s line inp fuel).Adv s inp := by
  fun_cases stepObjects o s line inp fuel
  · exact tagBlock_adv                                  -- `tag <name>`
  · exact cont openCommit_ext                           -- `commit <ref>`
  · exact stepCommit_adv                                -- everything else

theorem stepMain_adv {fuel : Nat} : (stepMain o s line inp fuel).Adv s inp := by
  fun_cases stepMain o s line inp fuel
  · exact cont (.frame rfl)                             -- rule 7: the `from` of a pending lightweight-tag reset is buffered
  · exact of_ext (flushPendingTagReset_ext.trans captureBranchReset_ext) stepObjects_adv

end

theorem step_adv (o : FOpts) (s : FState) (line inp : Bytes) (fuel : Nat) : (step o s line inp fuel).Adv s inp := by
  fun_cases step o s line inp fuel
  case case1 | case2 => trivial                         -- rule 2, skipping a tag: its payload does not parse or is cut short
  case case3 => exact read ‹_› (.frame rfl)             -- … or is read and skipped
  case case8 =>                                         -- rule 6: the `mark` line of a blob
    dsimp +zetaDelta only
    split <;> exact cont (.frame rfl)
  case case9 => exact stepMain_adv
  all_goals exact cont (.frame rfl)                     -- rules 2 to 5 otherwise: only blob and tag book-keeping changes

/-- `step_adv` for a step that went on -/
theorem step_cont {o : FOpts} {s s' : FState} {line inp inp' : Bytes} {fuel : Nat}
    (h : step o s line inp fuel = .cont s' inp') : Ext s s' ∧ inp' <:+ inp := by
  have := step_adv o s line inp fuel
  rwa [h] at this

/-! ### the fuel is never what ends a loop -/

theorem tagBlock_fuel {o : FOpts} {s : FState} {tagname : Bytes} :
    ∀ (f : Nat) (hdrs : List Bytes) (inp : Bytes), inp.length < f →
      tagBlock o s tagname f hdrs inp = tagBlock o s tagname (f + 1) hdrs inp := by
  intro f
  induction f with
  | zero => intro _ _ h; cases h
  | succ f ih =>
    intro hdrs inp h
    rw [tagBlock, tagBlock]
    -- the two sides differ in the recursive call only, and that is made on what is left after a line that is not empty
    refine ite_congr rfl (fun _ => rfl) fun he => ite_congr rfl (fun _ => rfl) fun _ => ih _ _ ?_
    have := readLine_lt he
    omega

/-- the fuel is handed down to `tagBlock` and read nowhere else -/
theorem step_fuel (o : FOpts) (s : FState) (line inp : Bytes) (f : Nat) (h : inp.length < f) :
    step o s line inp f = step o s line inp (f + 1) := by
  simp only [step, stepMain, stepObjects, tagBlock_fuel f [] inp h]

theorem loop_fuel (o : FOpts) : ∀ (f : Nat) (s : FState) (inp : Bytes), inp.length < f →
    loop o f s inp = loop o (f + 1) s inp := by
  intro f
  induction f with
  | zero => intro _ _ h; cases h
  | succ f ih =>
    intro s inp h
    rw [loop, loop]
    refine ite_congr rfl (fun _ => rfl) fun he => ?_
    have hlt := readLine_lt he
    rw [← step_fuel o s _ _ f (by omega)]
    cases hs : step o s (readLine inp).1 (readLine inp).2 f with
    | fail => rfl
    | cont s' inp' => exact ih s' inp' (by have := (step_cont hs).2.length_le; omega)

/-- **the main loop terminates by consuming its input**: any amount of extra fuel gives the same result, i.e. the
    run is never ended by the fuel bound — every iteration consumes at least one byte of a finite stream -/
theorem run_fuel_irrelevant (o : FOpts) (inp : Bytes) (k : Nat) :
    loop o (inp.length + 1 + k) {} inp = runBytes o inp := by
  induction k with
  | zero => rfl
  | succ k ih => rw [← ih]; exact (loop_fuel o (inp.length + 1 + k) {} inp (by omega)).symm

/-! ### the results of a run extend every intermediate state -/

/-- what a run reports extends the state it started from: the output written so far is a prefix of the final filtered
    stream, the pairs recorded so far are a prefix of the final commit-map input, recorded renames stay -/
structure ResExt (s : FState) (r : FResult) : Prop where
  out : s.out <+: r.out
  pairs : s.pairs.reverse <+: r.pairs
  ren : ∀ x ∈ s.refRenames, x ∈ r.refRenames

theorem failed_resExt (s : FState) : ResExt s (failed s) :=
  ⟨List.prefix_refl _, List.prefix_refl _, fun _ h => h⟩

theorem finishRun_resExt (s : FState) : ResExt s (finishRun s) := by
  unfold finishRun
  split
  · exact failed_resExt s
  · exact ⟨List.prefix_append _ _, List.prefix_refl _, fun _ h => h⟩

theorem ResExt.of_ext {s s' : FState} {r : FResult} (h : Ext s s') (h2 : ResExt s' r) : ResExt s r :=
  ⟨h.out.trans h2.out, (List.reverse_prefix.mpr h.pairs).trans h2.pairs, fun x hx => h2.ren x (h.ren x hx)⟩

theorem loop_resExt (o : FOpts) (f : Nat) (s : FState) (inp : Bytes) : ResExt s (loop o f s inp) := by
  fun_induction loop o f s inp
  case case3 => exact failed_resExt _                   -- the step failed
  case case4 hs ih => exact .of_ext (step_cont hs).1 ih
  all_goals exact finishRun_resExt _                    -- no fuel or no line left

end Frrs
