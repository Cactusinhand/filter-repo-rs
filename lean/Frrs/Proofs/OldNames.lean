/-
  Frrs.Proofs.OldNames — the deletion of old ref names in finalize() (`deletedOldNames`, Frrs/Finalize.lean):
  exactly the renamed names that existed are deleted.
-/
import Frrs.Proofs.Bytes
import Frrs.Proofs.Order
namespace Frrs.OldNames

theorem minName_mem : ∀ (l : List Bytes) (m : Bytes), minName l = some m → m ∈ l :=
  fun _ _ h => (minName_least h).1

/-- among names that all start with `old`, of which `old` is one, the smallest is `old`:
    a name sorts before everything it is a prefix of -/
theorem minName_of_prefixed (old : Bytes) : ∀ (l : List Bytes), (∀ x ∈ l, startsWith x old = true) → old ∈ l →
    minName l = some old := fun l hall hm =>
  minName_eq_some.2 ⟨hm, fun x hx => by
    obtain ⟨t, rfl⟩ := startsWith_iff.1 (hall x hx)
    exact List.le_append_left⟩

/-- the code's test for "the old name exists": the least ref that starts with `old` is `old` itself -/
theorem minName_prefixed_eq_self {refs : List Bytes} {old : Bytes} :
    minName (refs.filter fun r => startsWith r old) = some old ↔ old ∈ refs := by
  constructor
  · intro h
    exact (List.mem_filter.1 (minName_mem _ _ h)).1
  · intro h
    refine minName_of_prefixed old _ (fun _ hx => (List.mem_filter.1 hx).2) (List.mem_filter.2 ⟨h, ?_⟩)
    exact startsWith_iff.2 ⟨[], (List.append_nil _).symm⟩

/-- the deletion list of the update-ref batch, spelt out: a name is deleted exactly when a recorded rename changed it,
    no rename produces it (chained renames), and it existed before the run — whatever else starts with it, in
    whatever order the refs are listed -/
theorem mem_deletedOldNames {renames : List (Bytes × Bytes)} {refsBefore : List Bytes} {old : Bytes} :
    old ∈ deletedOldNames renames refsBefore ↔
      (∃ new_, (old, new_) ∈ renames ∧ old ≠ new_) ∧ (∀ p ∈ renames, p.2 ≠ old) ∧ old ∈ refsBefore := by
  simp only [deletedOldNames, List.mem_map, List.mem_filter, Bool.and_eq_true, bne_iff_ne, beq_iff_eq,
    Bool.not_eq_true', List.any_eq_false, minName_prefixed_eq_self]
  constructor
  · rintro ⟨⟨_, n⟩, ⟨hmem, ⟨hne, hchain⟩, hex⟩, rfl⟩
    exact ⟨⟨n, hmem, hne⟩, hchain, hex⟩
  · rintro ⟨⟨n, hmem, hne⟩, hchain, hex⟩
    exact ⟨(old, n), ⟨hmem, ⟨hne, hchain⟩, hex⟩, rfl⟩

example : deletedOldNames [(b!"refs/tags/v1", b!"refs/tags/r1")] [b!"refs/tags/v10", b!"refs/tags/v1", b!"refs/heads/m"]
    = [b!"refs/tags/v1"] := by decide +kernel

end Frrs.OldNames
