/-
  Frrs.Proofs.ByteClass — bytes by class. A graphic ASCII byte (`0x21`–`0x7e`: digits, letters, signs) is no part of a
  Unicode white-space character and is valid UTF-8 on its own, so trimming and tokenising leave runs of such bytes alone.
  The parsers of numbers, durations and sizes are only ever proved about texts made of such bytes and single blanks.
-/
import Frrs.Utf8
import Frrs.Proofs.Bytes
namespace Frrs

theorem beq_false_of_class {p : UInt8 → Bool} {b c : UInt8} (h : p b = true) (hc : p c = false) : (b == c) = false :=
  decide_eq_false fun e => by rw [e, hc] at h; cases h

/-! ### ASCII white space -/

/-- the first test of `wsLen` and `endsWsLen`: one of the six ASCII white-space characters -/
def isBlank (b : UInt8) : Bool := (0x09 ≤ b && b ≤ 0x0d) || b == 0x20

theorem wsLen_blank {w : UInt8} (hw : isBlank w = true) (s : Bytes) : wsLen (w :: s) = 1 := by
  unfold wsLen
  exact if_pos hw

theorem trimStart_blank {w : UInt8} (hw : isBlank w = true) (s : Bytes) : trimStart (w :: s) = trimStart s := by
  simp [trimStart, trimStartAux, wsLen_blank hw]

theorem trimEnd_blank (s : Bytes) {w : UInt8} (hw : isBlank w = true) : trimEnd (s ++ [w]) = trimEnd s := by
  have h1 : endsWsLen (w :: s.reverse) = 1 := by
    unfold endsWsLen
    exact if_pos hw
  simp [trimEnd, trimEndAux, h1]

/-! ### graphic ASCII -/

def isGraphic (b : UInt8) : Bool := 0x21 ≤ b && b ≤ 0x7e

theorem isGraphic_iff {b : UInt8} : isGraphic b = true ↔ 0x21 ≤ b ∧ b ≤ 0x7e := by
  simp [isGraphic]

theorem graphic_of_digit {b : UInt8} (h : isDigit b = true) : isGraphic b = true := by
  simp only [isDigit, Bool.and_eq_true, decide_eq_true_eq] at h
  exact isGraphic_iff.mpr ⟨UInt8.le_trans (by decide) h.1, UInt8.le_trans h.2 (by decide)⟩

theorem digit_ne_plus {b : UInt8} (h : isDigit b = true) : (b == 0x2b) = false := beq_false_of_class h (by decide)

theorem digit_ne_minus {b : UInt8} (h : isDigit b = true) : (b == 0x2d) = false := beq_false_of_class h (by decide)

theorem graphic_of_alpha {b : UInt8} (h : isAlpha b = true) : isGraphic b = true := by
  simp only [isAlpha, Bool.or_eq_true, Bool.and_eq_true, decide_eq_true_eq] at h
  rcases h with h | h <;> exact isGraphic_iff.mpr ⟨UInt8.le_trans (by decide) h.1, UInt8.le_trans h.2 (by decide)⟩

theorem graphic_le_7f {b : UInt8} (h : isGraphic b = true) : b ≤ 0x7f :=
  UInt8.le_trans (isGraphic_iff.mp h).2 (by decide)

theorem graphic_not_blank {b : UInt8} (h : isGraphic b = true) : isBlank b = false := by
  have hi : decide (b ≤ 0x0d) = false :=
    decide_eq_false fun h2 => absurd (UInt8.le_trans (isGraphic_iff.mp h).1 h2) (by decide)
  rw [isBlank, hi, beq_false_of_class h (c := 0x20) (by decide), Bool.and_false, Bool.or_false]

/-- no white-space character starts with a graphic byte -/
theorem wsLen_graphic {b : UInt8} (h : isGraphic b = true) (r : Bytes) : wsLen (b :: r) = 0 := by
  have n := fun c hc => beq_false_of_class (c := c) h hc
  -- `isBlank b`, spelt as `wsLen` spells it, so that `simp only` finds it after the unfolding
  have hb : ((0x09 ≤ b && b ≤ 0x0d) || b == 0x20) = false := graphic_not_blank h
  unfold wsLen
  simp only [hb, n 0xc2 rfl, n 0xe1 rfl, n 0xe2 rfl, n 0xe3 rfl, Bool.false_eq_true, if_false]

/-- the last byte of a white-space character of three bytes is not ASCII -/
theorem wsLen_ne_three {c2 : UInt8} (h : c2 ≤ 0x7f) (c0 c1 : UInt8) : wsLen [c0, c1, c2] ≠ 3 := by
  have n := fun x hx => beq_false_of_class (p := (· ≤ 0x7f)) (c := x) (decide_eq_true h) hx
  have lo : decide (0x80 ≤ c2) = false := decide_eq_false fun h2 => absurd (UInt8.le_trans h2 h) (by decide)
  unfold wsLen
  -- every test on the third byte fails; what is left are the branches with values 1, 2 and 0
  simp only [lo, n 0x80 rfl, n 0xa8 rfl, n 0xa9 rfl, n 0xaf rfl, n 0x9f rfl, Bool.false_and, Bool.or_false,
    Bool.and_false, Bool.false_eq_true, if_false, ite_self]
  refine iteInduction (motive := (· ≠ 3)) (fun _ => by decide) fun _ => ?_        -- `c0` an ASCII blank: 1
  refine iteInduction (motive := (· ≠ 3)) (fun _ => ?_) fun _ => by decide        -- `c0` not `0xc2`: 0
  exact iteInduction (motive := (· ≠ 3)) (fun _ => by decide) fun _ => by decide  -- `c0 c1` = U+0085 or U+00A0: 2, else 0

/-- nor does one end with a graphic byte (`endsWsLen` takes the text reversed) -/
theorem endsWsLen_graphic {b : UInt8} (h : isGraphic b = true) (r : Bytes) : endsWsLen (b :: r) = 0 := by
  have n := fun c hc => beq_false_of_class (c := c) h hc
  have hb : ((0x09 ≤ b && b ≤ 0x0d) || b == 0x20) = false := graphic_not_blank h
  unfold endsWsLen
  simp only [hb, n 0x85 rfl, n 0xa0 rfl, Bool.or_false, Bool.and_false, Bool.false_eq_true, if_false]
  match r with
  | [] | [_] => rfl
  | c1 :: c0 :: _ => exact if_neg (by simpa using wsLen_ne_three (graphic_le_7f h) c0 c1)

theorem trimStart_graphic {b : UInt8} (h : isGraphic b = true) (r : Bytes) : trimStart (b :: r) = b :: r := by
  simp [trimStart, trimStartAux, wsLen_graphic h]

theorem trimEnd_graphic (s : Bytes) {b : UInt8} (h : isGraphic b = true) : trimEnd (s ++ [b]) = s ++ [b] := by
  simp [trimEnd, trimEndAux, endsWsLen_graphic h]

/-- a text of graphic bytes has nothing to trim -/
theorem trim_graphic (s : Bytes) (h : ∀ b ∈ s, isGraphic b = true) : trimEnd s = s ∧ trim s = s := by
  have he : trimEnd s = s := by
    rcases s.eq_nil_or_concat with rfl | ⟨t, b, rfl⟩
    · rfl
    · rw [List.concat_eq_append] at h ⊢
      exact trimEnd_graphic t (h b (by simp))
  cases s with
  | nil => exact ⟨rfl, rfl⟩
  | cons b r => exact ⟨he, by rw [trim, trimStart_graphic (h b (by simp)), he]⟩

/-- a run of graphic bytes up to a white-space character or the end is one token -/
theorem takeToken_graphic (u rest : Bytes) (hu : ∀ b ∈ u, isGraphic b = true) (hr : rest = [] ∨ wsLen rest ≠ 0) :
    takeToken (u ++ rest) = (u, rest) := by
  induction u with
  | nil =>
    cases rest with
    | nil => rfl
    | cons c t => simp [takeToken, hr.resolve_left (by simp)]
  | cons b r ih =>
    simp [takeToken, wsLen_graphic (hu b (by simp)), ih fun x hx => hu x (by simp [hx])]

/-! ### ASCII is valid UTF-8 -/

theorem utf8Valid_ascii (l : Bytes) (h : ∀ b ∈ l, b ≤ 0x7f) : utf8Valid l = true := by
  induction l with
  | nil => rfl
  | cons b r ih =>
    unfold utf8Valid
    rw [if_pos (h b (by simp))]
    exact ih fun x hx => h x (by simp [hx])

end Frrs
