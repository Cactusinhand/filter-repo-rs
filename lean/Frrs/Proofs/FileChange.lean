/-
  Frrs.Proofs.FileChange — the change-line parser on the lines an exporter writes: a path in any of the renderings the tool's decoder
  knows (`ReprOf`: bare, or a quoted `Body`) followed by a line end is parsed back to the path bytes (`parse_M/D/C/R`).
-/
import Frrs.FileChange
import Frrs.Proofs.Codec
import Frrs.Proofs.Bytes
namespace Frrs

/-- `rest` is empty or begins with a byte that ends an unquoted path -/
def StopStart (rest : Bytes) : Prop := rest = [] ∨ ∃ b r, rest = b :: r ∧ isPathStop b = true

theorem scanPlain_spec {q rest : Bytes} (hq : ∀ b ∈ q, isPathStop b = false) (hr : StopStart rest) :
    scanPlain (q ++ rest) = (q, rest) := by
  induction q with
  | nil =>
    rcases hr with rfl | ⟨b, r, rfl, hb⟩
    · rfl
    · simp [scanPlain, hb]
  | cons a q ih =>
    have ha := hq a (by simp)
    have := ih (fun b hb => hq b (by simp [hb]))
    simp [scanPlain, ha, this]

/-- `ReprOf q p`: the field `q` is a way the exporter can write the path `p`:
    verbatim (non-empty, no space/LF/CR, not starting with a quote) or c-style quoted. -/
inductive ReprOf : Bytes → Bytes → Prop
  | plain {p} : p ≠ [] → p.head? ≠ some 0x22 → (∀ b ∈ p, isPathStop b = false) → ReprOf p p
  | quoted {q p} : Body q p → ReprOf (0x22 :: (q ++ [0x22])) p

theorem parsePath_repr {q p : Bytes} (h : ReprOf q p) (rest : Bytes) (hs : StopStart rest) :
    parsePath (q ++ rest) = some (p, rest) := by
  cases h with
  | plain hne hh hall =>
    cases q with
    | nil => exact absurd rfl hne
    | cons b r =>
      have hb : (b == 0x22) = false := decide_eq_false fun e => hh (congrArg some e)
      have : scanPlain (b :: (r ++ rest)) = (b :: r, rest) := scanPlain_spec hall hs
      simp [parsePath, hb, this]
  | @quoted q p hb => simp [parsePath, scan_body hb rest, dequote_body hb]

/-- a permitted line ending: none, LF, or CRLF -/
def LineEnd (le : Bytes) : Prop := le = [] ∨ le = [0x0a] ∨ le = [0x0d, 0x0a]

theorem LineEnd.isLineEnd {le : Bytes} (h : LineEnd le) : isLineEnd le = true := by
  rcases h with rfl | rfl | rfl <;> decide

theorem LineEnd.stopStart {le : Bytes} (h : LineEnd le) : StopStart le := by
  rcases h with rfl | rfl | rfl
  · exact Or.inl rfl
  · exact Or.inr ⟨_, _, rfl, by decide⟩
  · exact Or.inr ⟨_, _, rfl, by decide⟩

theorem stopStart_sp (r : Bytes) : StopStart (0x20 :: r) := Or.inr ⟨_, _, rfl, by decide⟩

/- In each of the four shapes the three `deleteall` tests fail at the first byte, and the fields are found by the lemmas named. -/

theorem parse_M {mode id q p le : Bytes} (hm : ∀ b ∈ mode, b ≠ 0x20) (hi : ∀ b ∈ id, b ≠ 0x20)
    (hr : ReprOf q p) (hle : LineEnd le) :
    parseFileChangeLine (b!"M " ++ mode ++ [0x20] ++ id ++ [0x20] ++ q ++ le)
      = some (.modify mode id p) := by
  have h1 := splitAtFirst_byte mode 0x20 (id ++ 0x20 :: (q ++ le)) hm
  have h2 := splitAtFirst_byte id 0x20 (q ++ le) hi
  have h3 := parsePath_repr hr le hle.stopStart
  simp [parseFileChangeLine, List.append_assoc, h1, h2, h3, hle.isLineEnd]

theorem parse_D {q p le : Bytes} (hr : ReprOf q p) (hle : LineEnd le) :
    parseFileChangeLine (b!"D " ++ q ++ le) = some (.delete p) := by
  have h3 := parsePath_repr hr le hle.stopStart
  simp [parseFileChangeLine, h3, hle.isLineEnd]

theorem twoPaths_repr {q1 p1 q2 p2 le : Bytes} (h1 : ReprOf q1 p1) (h2 : ReprOf q2 p2) (hle : LineEnd le) :
    twoPaths (q1 ++ 0x20 :: (q2 ++ le)) = some (p1, p2) := by
  have a := parsePath_repr h1 (0x20 :: (q2 ++ le)) (stopStart_sp _)
  have b := parsePath_repr h2 le hle.stopStart
  simp [twoPaths, a, b, hle.isLineEnd]

theorem parse_C {q1 p1 q2 p2 le : Bytes} (h1 : ReprOf q1 p1) (h2 : ReprOf q2 p2) (hle : LineEnd le) :
    parseFileChangeLine (b!"C " ++ q1 ++ [0x20] ++ q2 ++ le) = some (.copy p1 p2) := by
  simp [parseFileChangeLine, List.append_assoc, twoPaths_repr h1 h2 hle]

theorem parse_R {q1 p1 q2 p2 le : Bytes} (h1 : ReprOf q1 p1) (h2 : ReprOf q2 p2) (hle : LineEnd le) :
    parseFileChangeLine (b!"R " ++ q1 ++ [0x20] ++ q2 ++ le) = some (.rename p1 p2) := by
  simp [parseFileChangeLine, List.append_assoc, twoPaths_repr h1 h2 hle]

end Frrs
