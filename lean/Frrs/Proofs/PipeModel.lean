/-
  Frrs.Proofs.PipeModel — the three pipe machines of Frrs/PipeModel.lean run a schedule the same way, so what is proved
  by induction along an execution is proved once (`run_inv`, `run_length`); and the guards of their actions as
  propositions over the counters.
-/
import Frrs.PipeModel
namespace Frrs.PipeM

/-! ### executions

  An invariant of the enabled steps holds at the end (`run_inv`), and a measure they lower by one wherever the invariant
  holds counts them (`run_length`). -/

section
variable {S A : Type} (en : S → A → Bool) (ap : S → A → S)

/-- the shape of `exec`, `dexec` and `cexec`: every action of the schedule is enabled when it is taken -/
def run (s : S) : List A → Option S
  | [] => some s
  | a :: as => if en s a then run (ap s a) as else none

variable {en ap} {P : S → Prop} {s t : S} {as : List A}

theorem run_inv (hs : P s) (step : ∀ s a, P s → en s a = true → P (ap s a)) (h : run en ap s as = some t) : P t := by
  fun_induction run en ap s as with
  | case1 s => cases h; exact hs
  | case2 s a as he ih => exact ih (step s a hs he) h
  | case3 => cases h

theorem run_length (m : S → Nat) (hs : P s) (step : ∀ s a, P s → en s a = true → P (ap s a) ∧ m (ap s a) + 1 = m s)
    (h : run en ap s as = some t) : as.length + m t = m s := by
  fun_induction run en ap s as with
  | case1 s => cases h; exact Nat.zero_add _
  | case2 s a as he ih =>
    obtain ⟨hp, hm⟩ := step s a hs he
    have := ih hp h
    simp only [List.length_cons]; omega
  | case3 => cases h

end

theorem exec_eq_run (c : Cfg) (s : St) (as : List Act) : exec c s as = run (enabled c) (apply c) s as := by
  induction as generalizing s <;> simp only [exec, run, *]

theorem dexec_eq_run (c : DCfg) (s : DSt) (as : List DAct) : dexec c s as = run (denabled c) dapply s as := by
  induction as generalizing s <;> simp only [dexec, run, *]

theorem cexec_eq_run (c : CCfg) (s : CSt) (as : List CAct) : cexec c s as = run (cenabled c) (capply c) s as := by
  induction as generalizing s <;> simp only [cexec, run, *]

/-- taking a unit out of `n` of cost `k` each -/
theorem pred_mul_add {n : Nat} (h : 0 < n) (k : Nat) : (n - 1) * k + k = n * k := by
  rw [← Nat.add_one_mul, Nat.sub_add_cancel h]

/-! ### the guards of the request/reply child -/

section
variable {c : Cfg} {s : St}

theorem enabled_pw :
    enabled c s .pw = true ↔ s.toSend > 0 ∧ s.reqBuf < c.A ∧ (c.pol = .lockstep → pending c s = 0) := by
  simp only [enabled, Bool.and_eq_true, decide_eq_true_eq, and_assoc]
  cases c.pol <;> simp

theorem enabled_cr : enabled c s .cr = true ↔ s.reqBuf > 0 ∧ s.childOut = 0 := by
  simp only [enabled, Bool.and_eq_true, decide_eq_true_eq, beq_iff_eq]

theorem enabled_cw : enabled c s .cw = true ↔ s.childOut > 0 ∧ s.repBuf < c.B := by
  simp only [enabled, Bool.and_eq_true, decide_eq_true_eq]

theorem enabled_pr : enabled c s .pr = true ↔ s.repBuf > 0 ∧ (c.pol = .writeAll → s.toSend = 0) := by
  simp only [enabled, Bool.and_eq_true, decide_eq_true_eq]
  cases c.pol <;> simp

theorem final_eq_false : final s = false ↔ ¬(s.toSend = 0 ∧ s.reqBuf = 0 ∧ s.childOut = 0 ∧ s.repBuf = 0) := by
  simp only [final, ← Bool.not_eq_true, Bool.and_eq_true, beq_iff_eq, and_assoc]

end

/-! ### the guards of read-then-wait -/

section
variable {c : DCfg} {s : DSt}

theorem denabled_cw : denabled c s .cw = true ↔ s.childLeft > 0 ∧ s.buf < c.B := by
  simp only [denabled, Bool.and_eq_true, decide_eq_true_eq]

theorem denabled_pr : denabled c s .pr = true ↔ s.buf > 0 ∧ s.read < c.limit := by
  simp only [denabled, Bool.and_eq_true, decide_eq_true_eq]

end

/-! ### the guards of the chain -/

section
variable {c : CCfg} {s : CSt}

theorem cenabled_ew : cenabled c s .ew = true ↔ s.eLeft > 0 ∧ s.buf1 < c.A1 := by
  simp only [cenabled, Bool.and_eq_true, decide_eq_true_eq]

theorem cenabled_tr : cenabled c s .tr = true ↔ s.buf1 > 0 ∧ s.tHold = 0 ∧ s.waiting = false := by
  simp only [cenabled, Bool.and_eq_true, decide_eq_true_eq, beq_iff_eq, Bool.not_eq_true', and_assoc]

theorem cenabled_tw : cenabled c s .tw = true ↔ s.tHold > 0 ∧ s.buf2 < c.A2 ∧ s.waiting = false := by
  simp only [cenabled, Bool.and_eq_true, decide_eq_true_eq, Bool.not_eq_true', and_assoc]

theorem cenabled_ir : cenabled c s .ir = true ↔ s.buf2 > 0 := by
  simp only [cenabled, decide_eq_true_eq]

theorem cenabled_irep : cenabled c s .irep = true ↔ s.waiting = true ∧ s.buf2 = 0 ∧ s.reply = 0 := by
  simp only [cenabled, Bool.and_eq_true, beq_iff_eq, and_assoc]

theorem cenabled_trep : cenabled c s .trep = true ↔ s.waiting = true ∧ s.reply = 1 := by
  simp only [cenabled, Bool.and_eq_true, beq_iff_eq]

theorem cfinal_eq_false :
    cfinal s = false ↔ ¬(s.eLeft = 0 ∧ s.buf1 = 0 ∧ s.tHold = 0 ∧ s.buf2 = 0 ∧ s.waiting = false) := by
  simp only [cfinal, ← Bool.not_eq_true, Bool.and_eq_true, beq_iff_eq, Bool.not_eq_true', and_assoc]

end

end Frrs.PipeM
