/-
  Frrs.Proofs.Bridge — the link between the two layers of the development.

  `Frrs.Commit` / `Frrs.Filter` are the line-by-line models that the correspondence runs tie to
  commit.rs (`finalize_parent_lines`, `resolve_canonical_mark`, `should_keep_commit`; suites
  `finalizeparents`, `keepcommit`, and the stream runs). `Sim` (Frrs/Sim/Sim.lean) is the command-level filter over
  which the simulation theorems of C01/C02 are proved (`Sim.inv_run`, `Sim.mini_c01_c02`). Elsewhere
  the two are related by the oracle only (evaluated on every generated case). Here the pieces of
  `Sim.fstep` are proved equal to what the code-tied functions compute:

  * the parent list:   `keptMarks (classifyParents …) = Sim.dedup (parents.map canon)`
  * the canonical mark: on a flat alias table `resolveCanonical` is the single look-up `Sim.canon`
  * the prune decision: with the default pruning options `should_keep_commit` prunes exactly when
    `Sim.fstep` does (no surviving change and fewer than two surviving parents)
  * the alias table stays flat under the insertion the filter makes for a pruned commit.
-/
import Frrs.Commit
import Frrs.Filter
import Frrs.Sim.Sim
namespace Frrs.Bridge

/-- marks of the parents `finalize_parent_lines` keeps, in order -/
def keptMarks : List ParentOut → List Nat
  | [] => []
  | .canonical m _ :: r => m :: keptMarks r
  | .dropped :: r => keptMarks r
  | .raw _ :: r => keptMarks r

/-- every parent line carried a mark (`from :N` / `merge :N`, what `git fast-export` writes) -/
def AllMarked (ps : List ParentLine) : Prop := ∀ p ∈ ps, p.mark.isSome = true

def marksOf (ps : List ParentLine) : List Nat := ps.filterMap (·.mark)

/-- The de-duplication of the first pass is `Sim.dedupAux` over the images of the parents — their canonical marks, in
    the order of the lines, those that were emitted —, for every alias table, every emitted-set and every running
    `seen` list. A line without a mark is passed on raw and contributes to neither side. -/
theorem keptMarks_classify (emitted : Nat → Bool) (alias : AliasMap) (ps : List ParentLine)
    (seen : List Nat) :
    keptMarks (classifyParents emitted alias ps seen)
      = Sim.dedupAux seen (((marksOf ps).map (resolveCanonical alias)).filter emitted) := by
  fun_induction classifyParents emitted alias ps seen with
  | case1 => rfl
  | case2 p ps seen mk hmk c he ih =>
    have he : emitted (resolveCanonical alias mk) = false := by simpa using he
    simpa [keptMarks, marksOf, hmk, he] using ih
  | case3 p ps seen mk hmk c he hs ih =>
    have he : emitted (resolveCanonical alias mk) = true := by simpa using he
    have hs : resolveCanonical alias mk ∈ seen := by simpa using hs
    simpa [keptMarks, marksOf, hmk, he, hs, Sim.dedupAux] using ih
  | case4 p ps seen mk hmk c he hs ih =>
    have he : emitted (resolveCanonical alias mk) = true := by simpa using he
    have hs : resolveCanonical alias mk ∉ seen := by simpa using hs
    simpa [keptMarks, marksOf, hmk, he, hs, Sim.dedupAux, c] using ih
  | case5 p ps seen hmk ih => simpa [keptMarks, marksOf, hmk] using ih

theorem classify_is_dedup (emitted : Nat → Bool) (alias : AliasMap) :
    ∀ (ps : List ParentLine) (seen : List Nat), AllMarked ps →
      keptMarks (classifyParents emitted alias ps seen)
        = Sim.dedupAux seen (((marksOf ps).map (resolveCanonical alias)).filter emitted) :=
  fun ps seen _ => keptMarks_classify emitted alias ps seen

/-- `first_parent_mark` is the head of the kept marks and `kept` their number. -/
theorem first_and_count (emitted : Nat → Bool) (alias : AliasMap) :
    ∀ (ps : List ParentLine) (seen : List Nat), AllMarked ps →
      firstKeptMark (classifyParents emitted alias ps seen)
          = (keptMarks (classifyParents emitted alias ps seen)).head? ∧
      keptCount (classifyParents emitted alias ps seen)
          = (keptMarks (classifyParents emitted alias ps seen)).length := by
  intro ps seen hm
  -- a dropped line changes none of the three; a canonical one heads the kept marks and counts one;
  -- a raw line would end `firstKeptMark` and count, but comes from a line without a mark
  fun_induction classifyParents emitted alias ps seen with
  | case1 => exact ⟨rfl, rfl⟩
  | case2 p ps seen mk hmk c he ih => exact ih fun q hq => hm q (List.mem_cons_of_mem _ hq)
  | case3 p ps seen mk hmk c he hs ih => exact ih fun q hq => hm q (List.mem_cons_of_mem _ hq)
  | case4 p ps seen mk hmk c he hs ih =>
    exact ⟨rfl, congrArg (· + 1) (ih fun q hq => hm q (List.mem_cons_of_mem _ hq)).2⟩
  | case5 p ps seen hmk ih =>
    have := hm p List.mem_cons_self
    rw [hmk] at this
    cases this

/-! ### canonical marks -/

/-- no alias points at a mark that is itself aliased: the table is one level deep -/
def Flat (m : AliasMap) : Prop := ∀ k v, m.get k = some v → m.get v = none

/-- the alias table read as the `Sim` filter state -/
def simState (m : AliasMap) : Sim.FState := ⟨fun k => m.get k⟩

/-- On a flat table the chain walk of `resolve_canonical_mark` (with its cycle guard and its fuel)
    is the single look-up of the simulation. -/
theorem resolve_is_canon (m : AliasMap) (hflat : Flat m) (k : Nat) :
    resolveCanonical m k = Sim.canon (simState m) k := by
  unfold resolveCanonical Sim.canon simState
  -- on a flat table the walk stops after one look-up: the fuel is written as two steps and then plays no part
  show resolveAux m (m.length + 1 + 1) [] k = _
  cases hk : m.get k with
  | none => simp [resolveAux, hk]
  | some v =>
    have hv := hflat k v hk
    by_cases hvk : v = k
    · subst hvk; simp [resolveAux, hk]
    · have : (v == k) = false := by simpa using hvk
      simp [resolveAux, hk, this, hv]

theorem get_cons (a b : Nat) (m : AliasMap) (k : Nat) :
    AliasMap.get ((a, b) :: m) k = if a = k then some b else m.get k := by
  simp [AliasMap.get]

/-- Inserting `old ↦ c` for a fresh `old` and a canonical `c` (what `aliasDropped` does for a
    pruned commit) keeps the table flat. -/
theorem flat_insert (m : AliasMap) (hflat : Flat m) (old c : Nat)
    (hc : m.get c = none) (hne : old ≠ c) (hfresh : ∀ k v, m.get k = some v → v ≠ old) :
    Flat ((old, c) :: m) := by
  intro k v hkv
  rw [get_cons] at hkv ⊢
  -- whether `v` is the new target `c` or an old one, it is not `old` and is not aliased in `m`
  have hv : v ≠ old ∧ m.get v = none := by
    split at hkv
    · cases hkv; exact ⟨hne.symm, hc⟩
    · exact ⟨hfresh k v hkv, hflat k v hkv⟩
  rw [if_neg (Ne.symm hv.1)]
  exact hv.2

theorem flat_nil : Flat [] := fun _ _ h => nomatch h

/-! ### the parent list of one commit, end to end -/

/-- **Parents bridge.** For a commit whose parent lines all carry marks, on a flat alias table in
    which every canonical parent was emitted, the parents `finalize_parent_lines` keeps are exactly
    the parents `Sim.fstep` gives the commit: the canonical images, first occurrences only. -/
theorem parents_refine (emitted : Nat → Bool) (alias : AliasMap) (hflat : Flat alias)
    (ps : List ParentLine) (hm : AllMarked ps)
    (hem : ∀ k ∈ marksOf ps, emitted (resolveCanonical alias k) = true) :
    keptMarks (classifyParents emitted alias ps [])
      = Sim.dedup ((marksOf ps).map (Sim.canon (simState alias))) := by
  have hfilter : ((marksOf ps).map (resolveCanonical alias)).filter emitted
      = (marksOf ps).map (resolveCanonical alias) :=
    List.filter_eq_self.2 fun c hc => by
      obtain ⟨k, hk, rfl⟩ := List.mem_map.1 hc
      exact hem k hk
  rw [classify_is_dedup emitted alias ps [] hm, hfilter,
    List.map_congr_left fun k _ => resolve_is_canon alias hflat k]
  rfl

/-! ### the prune decision -/

/-- With the default pruning options a non-root commit is kept exactly when a change survived or at
    least two parents did — the condition under which `Sim.fstep` emits a commit rather than an alias —
    whatever the commit was before (`wasMerge`, `isDegenerate`). -/
theorem default_keep_is_sim (hasChanges : Bool) (p mk kept : Nat) (wasMerge isDeg : Bool) :
    shouldKeepCommit hasChanges (some p) (some mk) kept wasMerge isDeg {}
      = (hasChanges || decide (kept ≥ 2)) := by
  simp [shouldKeepCommit]

/-- In `Sim.fstep` terms: for a kept-parent list `q :: rest` and filtered changes `fch`, the code's
    decision is `!(fch.isEmpty && rest.isEmpty)`. -/
theorem default_prune_matches_fstep {α : Type} (fch : List α) (q : Nat) (rest : List Nat)
    (mk : Nat) (wasMerge isDeg : Bool) :
    shouldKeepCommit (!fch.isEmpty) (some q) (some mk) (q :: rest).length wasMerge isDeg {}
      = !(fch.isEmpty && rest.isEmpty) := by
  rw [default_keep_is_sim]
  cases fch <;> cases rest <;> simp

/-- a root (no surviving parent) is never pruned, under any options -/
theorem root_always_kept (hasChanges : Bool) (mk : Option Nat) (kept : Nat) (wasMerge isDeg : Bool)
    (o : PruneOpts) : shouldKeepCommit hasChanges none mk kept wasMerge isDeg o = true := by
  simp [shouldKeepCommit]

/-! ### the same, at the place where the main loop uses it -/

/-- **At the end of every commit of the byte-level loop** (`Filter.commitEndInfo`, the state the prune decision and the
    alias are computed from): if the buffered commit has parent lines and each carries a mark, `first_parent_mark` and the
    kept-parent count are head and length of the de-duplicated canonical emitted marks of its parents — for every filter
    state, whatever was read before. -/
theorem commitEnd_parents (s : FState)
    (hne : (parentsOf s.segs.reverse).isEmpty = false) (hm : AllMarked (parentsOf s.segs.reverse)) :
    let ks := Sim.dedupAux [] (((marksOf (parentsOf s.segs.reverse)).map (resolveCanonical s.alias)).filter
                (fun m => s.emitted.contains m))
    (commitEndInfo s).firstParent = ks.head? ∧ (commitEndInfo s).kept = ks.length := by
  intro ks
  have hfc := first_and_count (fun m => s.emitted.contains m) s.alias (parentsOf s.segs.reverse) [] hm
  rw [keptMarks_classify] at hfc
  unfold commitEndInfo
  simp only [hne, Bool.false_eq_true, if_false, finalizeParents]
  exact hfc

/-- a commit without parent lines reaches the decision as a root: no first parent, nothing kept — and is therefore kept
    (`root_always_kept`) -/
theorem commitEnd_root (s : FState) (h : (parentsOf s.segs.reverse).isEmpty = true) :
    (commitEndInfo s).firstParent = none ∧ (commitEndInfo s).kept = 0 := by
  unfold commitEndInfo
  simp [h]

theorem canonical_is_root (m : AliasMap) (hflat : Flat m) (k : Nat) : m.get (resolveCanonical m k) = none := by
  rw [resolve_is_canon m hflat k]
  unfold Sim.canon simState
  show m.get ((m.get k).getD k) = none
  cases hk : m.get k with
  | none => rw [Option.getD_none]; exact hk
  | some v => rw [Option.getD_some]; exact hflat k v hk

/-- **The alias the loop records for a pruned commit keeps the table one level deep** — provided the commit's mark is
    fresh (no alias points at it, and it is not its own parent's canonical mark: what `git fast-export` guarantees by
    numbering marks in stream order). So on exporter streams `resolve_canonical_mark` is always the single look-up of
    the simulation. -/
theorem aliasDropped_keeps_flat (s : FState) (e : CommitEnd) (hflat : Flat s.alias)
    (hfresh : ∀ om pm, s.commitMark = some om → e.firstParent = some pm →
      (∀ k v, s.alias.get k = some v → v ≠ om) ∧ om ≠ resolveCanonical s.alias pm) :
    Flat (aliasDropped s e).alias := by
  fun_cases aliasDropped s e with
  | case1 om pm hpm hom c _ =>
    obtain ⟨h1, h2⟩ := hfresh om pm hom hpm
    exact flat_insert s.alias hflat om c (canonical_is_root s.alias hflat pm) h2 h1
  | case2 => exact hflat
  | case3 => exact hflat

/-! ### non-vacuity -/

example : AllMarked [⟨b!"from :1\n", some 1, false⟩, ⟨b!"merge :2\n", some 2, true⟩] := by
  intro p hp; simp at hp; rcases hp with rfl | rfl <;> rfl

example : Flat [(3, 1), (2, 1)] :=
  flat_insert _ (flat_insert _ flat_nil 2 1 rfl (by decide) (fun _ _ h => nomatch h)) 3 1 rfl (by decide)
    (fun k v h => by rw [get_cons] at h; split at h <;> cases h; decide)

example : keptMarks (classifyParents (fun _ => true) [(3, 1), (2, 1)]
    [⟨[], some 2, false⟩, ⟨[], some 3, true⟩, ⟨[], some 4, true⟩] []) = [1, 4] := by decide

end Frrs.Bridge
