/-
  Frrs.Proofs.Stanza — what the main loop does with the `data` line of a blob stanza, for every payload.
-/
import Frrs.Filter
import Frrs.Proofs.Codec
namespace Frrs

theorem startsWith_data_cons {line : Bytes} (h : startsWith line b!"data " = true) : ∃ tl, line = 0x64 :: tl := by
  cases line with
  | nil => cases h
  | cons a tl => exact ⟨tl, congrArg (· :: tl) (of_decide_eq_true (Bool.and_eq_true_iff.mp h).1)⟩

/-- the byte-size / id decision of rule 12 -/
def blobStripped (o : FOpts) (s : FState) (n : Nat) : Bool :=
  (match o.maxBlob with | some mx => decide (n > mx) | none => false) ||
  (match s.lastBlobSha with | some sha => stripContains o.stripIds sha | none => false)

/-- outside a commit and with no reset pending, a `data` line goes straight to rule 12 -/
theorem step_data_line (o : FOpts) (s : FState) (line inp : Bytes) (fuel : Nat)
    (hs : s.skippingTag = false) (hc : s.inCommit = false)
    (hp1 : s.pendingTagReset = none) (hp2 : s.pendingBranchReset = none)
    (hl : startsWith line b!"data " = true) : step o s line inp fuel = tailRules o s line inp := by
  -- the first byte `d` alone rules out `tag `, `commit `, `blob`, `reset `, `mark :`, `original-oid ` and `from `
  obtain ⟨tl, rfl⟩ := startsWith_data_cons hl
  simp (config := {decide := true}) [step, hs, stepMain, hp1, hp2, stepObjects, stepCommit, hc, startsWith,
    flushPendingTagReset, captureBranchReset]

/-- **a kept blob**: whatever bytes the payload holds (`done`, `blob`, `data 5`, NUL …), the loop forwards the buffered
    `blob`/`mark`/`original-oid` lines, then a fresh length header, then exactly the payload rewritten by the content rules,
    and continues right after the payload -/
theorem blob_data_kept (o : FOpts) (s : FState) (line inp payload rest : Bytes) (n fuel : Nat)
    (hs : s.skippingTag = false) (hb : s.inBlob = true) (hc : s.inCommit = false)
    (hp1 : s.pendingTagReset = none) (hp2 : s.pendingBranchReset = none)
    (hl : startsWith line b!"data " = true) (hh : parseDataHeader line = some n)
    (hr : readExact n inp = some (payload, rest)) (hk : blobStripped o s n = false) :
    ∃ s', step o s line inp fuel = .cont s' rest ∧
      s'.out = s.out ++ (s.blobBuf.reverse.flatten ++ dataHeader (rewriteBlob o payload).length ++ rewriteBlob o payload) ∧
      s'.inBlob = false ∧ s'.pairs = s.pairs ∧ s'.oversizeMarks = s.oversizeMarks := by
  rw [step_data_line o s line inp fuel hs hc hp1 hp2 hl]
  simp only [tailRules, hl, hh, hr, hb, if_true, FState.emit]
  rw [if_neg]
  · cases s.lastBlobMark <;> exact ⟨_, rfl, rfl, rfl, rfl, rfl⟩
  · exact Bool.eq_false_iff.mp hk      -- the condition is `blobStripped o s n`, unfolded

/-- the `blob` line opens a stanza: nothing is written yet -/
theorem blob_line (o : FOpts) (s : FState) (inp : Bytes) (fuel : Nat) (hs : s.skippingTag = false) (hb : s.inBlob = false) :
    step o s b!"blob\n" inp fuel = .cont { s with inBlob := true, blobBuf := [b!"blob\n"], lastBlobMark := none } inp := by
  simp (config := {decide := true}) [step, hs, hb, startsWith]

/-- the `mark :n` line of a blob is buffered and its number remembered -/
theorem blob_mark_line (o : FOpts) (s : FState) (digits inp : Bytes) (n fuel : Nat) (hs : s.skippingTag = false)
    (hb : s.inBlob = true) (hd : satDigits (digits ++ [B.lf]) = some n) :
    step o s (b!"mark :" ++ digits ++ [B.lf]) inp fuel =
      .cont { s with lastBlobMark := some n, blobBuf := (b!"mark :" ++ digits ++ [B.lf]) :: s.blobBuf } inp := by
  simp (config := {decide := true}) [step, hs, hb, startsWith, hd]

theorem stripLf_line (l : Bytes) : stripLf (l ++ [B.lf]) = l := by
  simp [stripLf]

end Frrs
