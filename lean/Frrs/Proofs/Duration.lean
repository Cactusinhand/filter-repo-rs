/-
  Frrs.Proofs.Duration — `--date-shift "<sign><digits> <unit>"` means sign · value · (length of the unit), for every digit
  string and every unit name whose value and product fit an i64 (a larger number is refused, a larger sum of components
  saturates); `--date-set <digits>` means the value.
-/
import Frrs.Proofs.CliValues
namespace Frrs

theorem trimStart_alpha (b : UInt8) (r : Bytes) (h : isAlpha b = true) : trimStart (b :: r) = b :: r :=
  trimStart_graphic (graphic_of_alpha h) r

/-! ### two words with one blank between them -/

theorem splitWs_token {f : Nat} {s t rest : Bytes} (h : takeToken (trimStart s) = (t, rest)) (ht : t ≠ []) :
    splitWs (f + 1) s = t :: splitWs f rest := by
  rw [splitWs]
  simp only [h, List.isEmpty_eq_false_iff.mpr ht, Bool.false_eq_true, if_false]

theorem splitWs_nil (f : Nat) : splitWs f [] = [] := by
  cases f <;> rfl

theorem trim_pair (a b : Bytes) (ha : ∀ x ∈ a, isGraphic x = true) (ha0 : a ≠ []) (hb : ∀ x ∈ b, isGraphic x = true)
    (hb0 : b ≠ []) : trim (a ++ B.sp :: b) = a ++ B.sp :: b := by
  obtain ⟨a0, a', rfl⟩ := List.exists_cons_of_ne_nil ha0
  obtain ⟨b', z, rfl⟩ := (List.eq_nil_or_concat b).resolve_left hb0
  rw [trim, List.cons_append, trimStart_graphic (ha a0 (by simp)), List.concat_eq_append, ← List.cons_append,
    ← List.cons_append, ← List.append_assoc, trimEnd_graphic _ (hb z (by simp))]

theorem splitWs_pair (a b : Bytes) (ha : ∀ x ∈ a, isGraphic x = true) (ha0 : a ≠ []) (hb : ∀ x ∈ b, isGraphic x = true)
    (hb0 : b ≠ []) : splitWs ((a ++ B.sp :: b).length + 1) (a ++ B.sp :: b) = [a, b] := by
  have hsp : wsLen (B.sp :: b) ≠ 0 := by rw [wsLen_blank (by decide)]; decide
  have k1 : takeToken (trimStart (a ++ B.sp :: b)) = (a, B.sp :: b) := by
    obtain ⟨a0, a', rfl⟩ := List.exists_cons_of_ne_nil ha0
    rw [List.cons_append, trimStart_graphic (ha a0 (by simp)), ← List.cons_append, takeToken_graphic _ _ ha (Or.inr hsp)]
  have k2 : takeToken (trimStart (B.sp :: b)) = (b, []) := by
    obtain ⟨b0, b', rfl⟩ := List.exists_cons_of_ne_nil hb0
    rw [trimStart_blank (by decide), trimStart_graphic (hb b0 (by simp))]
    simpa using takeToken_graphic (b0 :: b') [] hb (Or.inl rfl)
  rw [List.length_append, List.length_cons, splitWs_token k1 ha0, ← Nat.add_assoc, splitWs_token k2 hb0, splitWs_nil]

/-! ### the number and the unit -/

theorem parseI64_digits (ds : Bytes) (hne : ds ≠ []) (hd : ∀ b ∈ ds, isDigit b = true) (hv : (decVal 0 ds : Int) ≤ i64Max) :
    parseI64 ds = some (decVal 0 ds : Int) := by
  cases ds with
  | nil => exact absurd rfl hne
  | cons c r =>
    have hc := hd c (by simp)
    have hlo : ¬ ((decVal 0 (c :: r) : Int) < i64Min) :=
      Int.not_lt.mpr (Int.le_trans (by decide) (Int.natCast_nonneg _))
    simp [parseI64, digit_ne_minus hc, digit_ne_plus hc, allDigits_of hd,
      hlo, Int.not_lt.mpr hv]

theorem satI64_id (x : Int) (h1 : i64Min ≤ x) (h2 : x ≤ i64Max) : satI64 x = x := by
  rw [satI64, if_neg (Int.not_lt.mpr h2), if_neg (Int.not_lt.mpr h1)]

/-- inside the bounds nothing saturates, whatever the sign (the left side is the shape `durationGo` leaves for one
    component: the product, the running sum from 0, the sign, each saturated) -/
theorem satI64_signed (sign x : Int) (hs : sign = 1 ∨ sign = -1) (h0 : 0 ≤ x) (hb : x ≤ i64Max) :
    satI64 (satI64 (0 + satI64 x) * sign) = sign * x := by
  have e := satI64_id x (Int.le_trans (by decide) h0) hb
  rw [Int.zero_add, e, e, Int.mul_comm]
  rcases hs with rfl | rfl
  · rw [Int.one_mul, e]
  · rw [Int.neg_one_mul]
    exact satI64_id _ (Int.le_trans (by decide) (Int.neg_le_neg hb)) (Int.le_trans (Int.neg_nonpos_of_nonneg h0) (by decide))

/-- the core: the two tokens `<digits>` and `<unit>`, with the saturation the code applies at every step -/
theorem durationGo_pair (sign : Int) (ds u : Bytes) (m : Int) (hne : ds ≠ []) (hd : ∀ b ∈ ds, isDigit b = true)
    (hn : (decVal 0 ds : Int) ≤ i64Max) (hu : unitSeconds (u.map lowerAsciiB) = some m) :
    durationGo sign [ds, u] 0 = some (satI64 (satI64 (0 + satI64 ((decVal 0 ds : Int) * m)) * sign)) := by
  simp [durationGo, stripUnderscores_digits ds hd, parseI64_digits ds hne hd hn, hu]

/-- an optional sign in front of a text that starts with a digit -/
theorem parseDuration_signed (sgn : Bytes) (sign : Int) (d : UInt8) (r : Bytes)
    (hs : (sgn, sign) ∈ [(([] : Bytes), (1 : Int)), ([0x2b], 1), ([0x2d], -1)]) (hd : isDigit d = true)
    (htrim : trim (sgn ++ d :: r) = sgn ++ d :: r) :
    parseDuration (sgn ++ d :: r) = durationGo sign (splitWs ((d :: r).length + 1) (d :: r)) 0 := by
  rw [parseDuration, htrim]
  simp only [List.mem_cons, Prod.mk.injEq, List.mem_nil_iff, or_false] at hs
  rcases hs with ⟨rfl, rfl⟩ | ⟨rfl, rfl⟩ | ⟨rfl, rfl⟩
  · simp only [List.nil_append, digit_ne_plus hd, digit_ne_minus hd,
      Bool.false_eq_true, if_false]
  · rfl
  · rfl

/-- **`--date-shift "<digits> <unit>"`, optionally signed, is sign · value · unit-length seconds** for every digit string and
    every unit name of the table (in any letter case) — as long as the product fits an i64; beyond that it saturates
    (`durationGo_pair`). -/
theorem parseDuration_single (sgn : Bytes) (sign : Int) (ds u : Bytes) (m : Int)
    (hs : (sgn, sign) ∈ [(([] : Bytes), (1 : Int)), ([0x2b], 1), ([0x2d], -1)])
    (hne : ds ≠ []) (hd : ∀ b ∈ ds, isDigit b = true) (hu0 : u ≠ []) (hu : ∀ b ∈ u, isAlpha b = true)
    (hm : unitSeconds (u.map lowerAsciiB) = some m)
    (hm0 : 0 ≤ m) (hb : (decVal 0 ds : Int) * m ≤ i64Max) (hn : (decVal 0 ds : Int) ≤ i64Max) :
    parseDuration (sgn ++ ds ++ B.sp :: u) = some (sign * ((decVal 0 ds : Int) * m)) := by
  have hgd : ∀ b ∈ ds, isGraphic b = true := fun b hb => graphic_of_digit (hd b hb)
  have hgu : ∀ b ∈ u, isGraphic b = true := fun b hb => graphic_of_alpha (hu b hb)
  have hsg : (∀ b ∈ sgn, isGraphic b = true) ∧ (sign = 1 ∨ sign = -1) := by
    simp only [List.mem_cons, Prod.mk.injEq, List.mem_nil_iff, or_false] at hs
    rcases hs with ⟨rfl, rfl⟩ | ⟨rfl, rfl⟩ | ⟨rfl, rfl⟩ <;> decide
  -- trimming changes nothing: the text starts with a sign or a digit and ends with a letter
  have htrim := trim_pair (sgn ++ ds) u (fun b hb => (List.mem_append.mp hb).elim (hsg.1 b) (hgd b)) (by simp [hne]) hgu hu0
  have hval := satI64_signed sign _ hsg.2 (Int.mul_nonneg (Int.natCast_nonneg _) hm0) hb
  have hgo := durationGo_pair sign ds u m hne hd hn hm
  obtain ⟨d0, dr, rfl⟩ := List.exists_cons_of_ne_nil hne
  rw [List.append_assoc, List.cons_append] at htrim ⊢
  rw [parseDuration_signed sgn sign d0 _ hs (hd d0 (by simp)) htrim, ← List.cons_append, splitWs_pair _ u hgd hne hgu hu0,
    hgo, hval]

/-- **a plain number of seconds is itself**: `--date-set <digits>` sets every timestamp to the value, up to the i64 bound -/
theorem parseTimestamp_digits (ds : Bytes) (hne : ds ≠ []) (hd : ∀ b ∈ ds, isDigit b = true)
    (hn : (decVal 0 ds : Int) ≤ i64Max) : parseTimestamp ds = some (decVal 0 ds : Int) := by
  have htrim := (trim_graphic ds fun b hb => graphic_of_digit (hd b hb)).2
  simp only [parseTimestamp, htrim, parseI64_digits ds hne hd hn]

end Frrs
