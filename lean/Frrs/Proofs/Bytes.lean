/-
  Frrs.Proofs.Bytes — the byte-string utilities of Frrs/Bytes.lean in terms of `++`: `startsWith` and `stripPrefix?` (a prefix
  and what follows it), `findSub` (`Occurs`: the needle somewhere inside), `splitOn` and `splitAtFirst` (the first separator).
-/
import Frrs.Bytes
namespace Frrs

theorem startsWith_iff {p x : Bytes} : startsWith p x = true ↔ ∃ t, p = x ++ t := by
  fun_induction startsWith p x with
  | case1 p => simp
  | case2 b x => simp
  | case3 a p b x ih => simp [ih]

theorem startsWith_append_self (n t : Bytes) : startsWith (n ++ t) n = true :=
  startsWith_iff.2 ⟨t, rfl⟩

theorem startsWith_false_of {a b : Bytes} (h : startsWith a b = false) : ¬ ∃ t, a = b ++ t :=
  fun hx => Bool.eq_false_iff.1 h (startsWith_iff.2 hx)

theorem startsWith_append_of_le {v w p : Bytes} (h : p.length ≤ v.length) : startsWith (v ++ w) p = startsWith v p := by
  induction p generalizing v with
  | nil => simp [startsWith]
  | cons a p ih =>
    cases v with
    | nil => exact absurd h (Nat.not_succ_le_zero _)
    | cons b v => simp only [List.cons_append, startsWith, ih (Nat.le_of_succ_le_succ h)]

theorem stripPrefix?_eq_some {s x t : Bytes} : stripPrefix? s x = some t ↔ s = x ++ t := by
  fun_induction stripPrefix? s x with
  | case1 s => simp [eq_comm]
  | case2 b x => simp
  | case3 a s b x hab ih => simp_all
  | case4 a s b x hab => simp_all

@[simp] theorem stripPrefix?_append (x t : Bytes) : stripPrefix? (x ++ t) x = some t :=
  stripPrefix?_eq_some.2 rfl

theorem stripPrefix?_eq_none {s x : Bytes} (h : startsWith s x = false) : stripPrefix? s x = none := by
  cases hs : stripPrefix? s x with
  | none => rfl
  | some t => rw [stripPrefix?_eq_some.1 hs, startsWith_append_self] at h; cases h

def Occurs (n h : Bytes) : Prop := ∃ pre post, h = pre ++ n ++ post

theorem not_occurs_nil {n : Bytes} (hn : n ≠ []) : ¬ Occurs n [] := by
  rintro ⟨pre, post, e⟩
  simp [hn] at e

theorem occurs_cons {n : Bytes} {b : UInt8} {t : Bytes} (h : Occurs n (b :: t)) :
    startsWith (b :: t) n = true ∨ Occurs n t := by
  obtain ⟨pre, post, e⟩ := h
  cases pre with
  | nil => left; rw [e]; exact startsWith_append_self n post
  | cons a pre => exact .inr ⟨pre, post, (List.cons.inj e).2⟩

theorem occurs_of_tail {n t : Bytes} (b : UInt8) (h : Occurs n t) : Occurs n (b :: t) := by
  obtain ⟨pre, post, rfl⟩ := h
  exact ⟨b :: pre, post, rfl⟩

theorem findSub_some {n h pre post : Bytes} (hf : findSub n h = some (pre, post)) :
    h = pre ++ n ++ post := by
  fun_induction findSub n h generalizing pre post with
  | case1 hn => cases hf; simpa using hn
  | case2 => cases hf
  | case3 b r rest hs => cases hf; exact stripPrefix?_eq_some.1 hs
  | case4 b r hs pre' post' hr ih => cases hf; exact congrArg (b :: ·) (ih hr)
  | case5 => cases hf

theorem findSub_none {n h : Bytes} (hf : findSub n h = none) : ¬ Occurs n h := by
  fun_induction findSub n h with
  | case1 => cases hf
  | case2 hn => exact not_occurs_nil (mt List.isEmpty_iff.2 hn)
  | case3 => cases hf
  | case4 => cases hf
  | case5 b r hs hr ih =>
    intro ho
    rcases occurs_cons ho with h1 | h1
    · obtain ⟨t, e⟩ := startsWith_iff.1 h1
      rw [e, stripPrefix?_append] at hs
      cases hs
    · exact ih hr h1

/-! ### splitting -/

theorem splitOn_line (sep : UInt8) (l rest : Bytes) (h : ∀ b ∈ l, (b == sep) = false) :
    splitOn sep (l ++ sep :: rest) = l :: splitOn sep rest := by
  induction l with
  | nil => simp [splitOn]
  | cons b r ih =>
    have hb := h b (by simp)
    have := ih (fun x hx => h x (by simp [hx]))
    simp [splitOn, hb, this]

theorem splitAtFirst_first {p : UInt8 → Bool} (m : Bytes) (x : UInt8) (r : Bytes)
    (hm : ∀ b ∈ m, p b = false) (hx : p x = true) :
    splitAtFirst p (m ++ x :: r) = some (m, r) := by
  induction m with
  | nil => simp [splitAtFirst, hx]
  | cons a m ih =>
    have := ih (fun b hb => hm b (by simp [hb]))
    simp [splitAtFirst, hm a (by simp), this]

theorem splitAtFirst_byte (m : Bytes) (x : UInt8) (r : Bytes) (hm : ∀ b ∈ m, b ≠ x) :
    splitAtFirst (· == x) (m ++ x :: r) = some (m, r) :=
  splitAtFirst_first m x r (fun b hb => decide_eq_false (hm b hb)) (decide_eq_true rfl)

end Frrs
