/-
  Frrs.Proofs.ShortHash — facts about the old-commit-id translator (Frrs/ShortHash.lean).
  Two statements carry the rest: `translate_eq_some` (what a new id that `translate` returns is, in terms of the recorded
  entries) and `rewrite_rel` (a message and its translation differ only by `subst` on candidates). That a self-mapped
  table changes no message and that a table of 40-digit ids changes no length are instances.
-/
import Frrs.ShortHash
namespace Frrs

theorem lowerA_idem (b : UInt8) : lowerA (lowerA b) = lowerA b := by
  -- a capital letter moved up by 32 is no capital letter
  have h : 0x41 ≤ b ∧ b ≤ 0x5a → ¬ (b + 32 ≤ 0x5a) := by
    simp only [UInt8.le_iff_toNat_le, UInt8.toNat_add, UInt8.toNat_ofNat]
    omega
  unfold lowerA
  split
  · next hb =>
    simp only [Bool.and_eq_true, decide_eq_true_eq] at hb
    simp [h hb]
  · rfl

theorem lowerAll_idem (s : Bytes) : lowerAll (lowerAll s) = lowerAll s := by
  simp [lowerAll, List.map_map, Function.comp_def, lowerA_idem]

theorem lowerAll_take (s : Bytes) (n : Nat) : lowerAll (s.take n) = (lowerAll s).take n := by
  simp [lowerAll, List.map_take]

theorem lowerAll_length (s : Bytes) : (lowerAll s).length = s.length := by simp [lowerAll]

theorem mem_of_get {m : ShMap} {k : Bytes} {r : Option Bytes} : m.get k = some r → (k, r) ∈ m.lookup := by
  fun_cases ShMap.get m k with
  | case1 e he =>
    intro h
    have hk := List.find?_some he
    cases h
    cases eq_of_beq hk
    exact List.mem_of_find?_eq_some he
  | case2 => exact nofun

/-- a prefix look-up succeeds only for the one recorded id that begins with `short`, and gives the new id recorded for it,
    cut to the length of `short` -/
theorem lookupPrefix_eq_some {m : ShMap} {short new : Bytes} : m.lookupPrefix short = some new →
    ∃ full v, (∀ o ∈ m.olds, short.length ≤ o.length ∧ o.take short.length = short → o = full) ∧
      full.take short.length = short ∧ (full, some v) ∈ m.lookup ∧ new = v.take short.length := by
  fun_cases ShMap.lookupPrefix m short with
  | case1 n full hf v hg =>
    intro h
    cases h
    have hmem (o : Bytes) : o ∈ [full] ↔ o ∈ m.olds ∧ short.length ≤ o.length ∧ o.take short.length = short := by
      rw [← hf, List.mem_filter, Bool.and_eq_true, decide_eq_true_eq, beq_iff_eq]
    exact ⟨full, v, fun o ho hp => List.mem_singleton.mp ((hmem o).mpr ⟨ho, hp⟩),
      ((hmem full).mp (List.mem_singleton_self full)).2.2, mem_of_get hg, rfl⟩
  | case2 | case3 => exact nofun

/-- the new id given for a word is the one recorded for the word itself (lower-cased) if it has 40 digits, and otherwise
    the one recorded for an id that begins with the word, cut to the length of the word -/
theorem translate_eq_some {m : ShMap} {c new : Bytes} : m.translate c = some new →
    c.length = 40 ∧ (lowerAll c, some new) ∈ m.lookup ∨
    ∃ full v, (full, some v) ∈ m.lookup ∧ full.take c.length = lowerAll c ∧ new = v.take c.length := by
  fun_cases ShMap.translate m c with
  | case1 | case3 => exact nofun
  | case2 _ key h40 r hg => exact fun h => .inl ⟨eq_of_beq h40, mem_of_get (h ▸ hg)⟩
  | case4 =>
    intro h
    obtain ⟨full, v, -, hfull, hm, hnew⟩ := lookupPrefix_eq_some h
    rw [lowerAll_length] at hfull hnew
    exact .inr ⟨full, v, hm, hfull, hnew⟩

theorem takeWord_append (f : Nat) (s : Bytes) : (takeWord f s).1 ++ (takeWord f s).2 = s := by
  fun_induction takeWord f s with
  | case1 s => rfl
  | case2 f s k hk => rfl
  | case3 f s k hk w rest hw ih =>
    rw [hw] at ih
    simp only [List.append_assoc, ih, List.take_append_drop]

/-- `rewrite` copies the text piece by piece, except that a piece `c` that is a candidate becomes `m.subst c`: a relation
    that holds between a candidate and its substitute, is reflexive and respects concatenation holds between a text and
    its translation -/
theorem rewrite_rel (m : ShMap) {R : Bytes → Bytes → Prop} (refl : ∀ s, R s s)
    (app : ∀ {a a' b b'}, R a a' → R b b' → R (a ++ b) (a' ++ b'))
    (cand : ∀ c, isCandidate c = true → R c (m.subst c)) (s : Bytes) : R s (m.rewrite s) := by
  unfold ShMap.rewrite
  -- whatever the fuel: what is left when it runs out is copied
  generalize s.length = f
  fun_induction ShMap.rewriteAux m f s with
  | case1 s => exact refl s
  | case2 f => exact refl []
  | case3 f b r w rest hw _ ih => exact app (refl [b]) ih
  | case4 f b r w rest hw _ ih =>
    have hs := takeWord_append (b :: r).length (b :: r)
    rw [hw] at hs
    rw [← hs]
    refine app ?_ ih
    split
    · exact cand w ‹_›
    · exact refl w

/-! ### a map in which every id maps to itself -/

/-- every recorded new id is the (lower-cased) old id it is recorded for -/
def SelfMapped (m : ShMap) : Prop := ∀ e ∈ m.lookup, ∀ v, e.2 = some v → v = e.1

/-- every pushed old id is lower-case (the code lower-cases before pushing) -/
def OldsLower (m : ShMap) : Prop := ∀ o ∈ m.olds, lowerAll o = o

theorem subst_selfMapped (m : ShMap) (h : SelfMapped m) (c : Bytes) : m.subst c = c := by
  fun_cases ShMap.subst m c with
  | case1 | case3 => rfl
  | case2 new ht hne =>
    have : new = lowerAll c := by
      obtain ⟨-, hm⟩ | ⟨full, v, hm, hfull, rfl⟩ := translate_eq_some ht
      · exact h _ hm new rfl
      · rw [h _ hm v rfl, hfull]
    -- so the new id is the old one up to case, which is the test that leaves the word alone: `hne` is absurd
    simp [eqIgnoreCase, this, lowerAll_idem] at hne

/-- **an id that maps to itself is never respelled**: with a self-mapped table (what a run that changed nothing leaves
    behind) `rewrite` is the identity on every message -/
theorem rewrite_selfMapped (m : ShMap) (h : SelfMapped m) (s : Bytes) : m.rewrite s = s :=
  rewrite_rel m (R := fun a b => b = a) (fun _ => rfl) (fun ha hb => by rw [ha, hb]) (fun c _ => subst_selfMapped m h c) s

theorem selfMapped_empty : SelfMapped {} := fun _ he => nomatch he

theorem selfMapped_addLine (m : ShMap) (h : SelfMapped m) (raw : Bytes)
    (hl : ∀ old new, splitAtFirst (fun b => b == B.sp) (stripEol raw) = some (old, new) → lowerAll new = lowerAll old) :
    SelfMapped (m.addLine raw).1 := by
  fun_cases ShMap.addLine m raw with
  | case1 | case2 | case3 => exact h
  | case4 l _ old new hs _ =>
    refine List.forall_mem_cons.mpr
      ⟨fun v (hv : (if new == nullOid then none else some (lowerAll new)) = some v) => ?_, h⟩
    split at hv
    · cases hv
    · cases hv; exact hl old new hs

theorem rewrite_empty (s : Bytes) : ({} : ShMap).rewrite s = s :=
  rewrite_selfMapped {} selfMapped_empty s

/-! ### translation keeps the length of a message -/

/-- every recorded new id has 40 digits (what the tool itself writes into commit-map of a SHA-1 repository) -/
def WF40 (m : ShMap) : Prop := ∀ e ∈ m.lookup, ∀ v, e.2 = some v → v.length = 40

/-- the decidable form -/
def wf40b (m : ShMap) : Bool := m.lookup.all fun e => match e.2 with | some v => v.length == 40 | none => true

theorem wf40_of_b (m : ShMap) (h : wf40b m = true) : WF40 m := by
  intro e he v hv
  have := (List.all_eq_true.mp h) e he
  simp only [hv, beq_iff_eq] at this
  exact this

theorem isCandidate_le (w : Bytes) (h : isCandidate w = true) : w.length ≤ 40 := by
  simp only [isCandidate, Bool.and_eq_true, decide_eq_true_eq] at h
  exact h.2

theorem subst_length (m : ShMap) (h : WF40 m) (c : Bytes) (hc : c.length ≤ 40) : (m.subst c).length = c.length := by
  fun_cases ShMap.subst m c with
  | case1 | case3 => rfl
  | case2 new ht =>
    obtain ⟨h40, hm⟩ | ⟨full, v, hm, -, rfl⟩ := translate_eq_some ht
    · rw [h _ hm new rfl, h40]
    · rw [List.length_take, h _ hm v rfl]
      omega

/-- **translating cited ids never changes the length of a message** (new ids of 40 digits: an abbreviation of n digits is
    replaced by the first n digits of the new id, a full id by the full new id) -/
theorem rewrite_length (m : ShMap) (h : WF40 m) (s : Bytes) : (m.rewrite s).length = s.length :=
  rewrite_rel m (R := fun a b => b.length = a.length) (fun _ => rfl)
    (fun ha hb => by rw [List.length_append, List.length_append, ha, hb])
    (fun c hc => subst_length m h c (isCandidate_le c hc)) s

end Frrs
