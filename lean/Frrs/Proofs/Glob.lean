/-
  Frrs.Proofs.Glob — the glob matcher `globF` (Frrs/Glob.lean) against the declarative meaning `GlobSpec`: what each of
  its three loops decides, soundness for every fuel, completeness once the fuel exceeds the pattern's length (`globF_iff`).
-/
import Frrs.Glob
namespace Frrs

theorem loopAny_iff (k : Bytes → Bool) (t : Bytes) :
    loopAny k t = true ↔ ∃ u v, t = u ++ v ∧ k v = true := by
  induction t with
  | nil => exact ⟨fun h => ⟨[], [], rfl, h⟩, by rintro ⟨_ | _, v, ⟨⟩, h⟩; exact h⟩
  | cons c t ih =>
    rw [loopAny, Bool.or_eq_true, ih]
    constructor
    · rintro (h | ⟨u, v, rfl, h⟩)
      · exact ⟨[], _, rfl, h⟩
      · exact ⟨c :: u, v, rfl, h⟩
    · rintro ⟨_ | ⟨d, u⟩, v, ⟨⟩, h⟩
      · exact .inl h
      · exact .inr ⟨u, v, rfl, h⟩

theorem loopSeg_iff (k : Bytes → Bool) (t : Bytes) :
    loopSeg k t = true ↔ ∃ u v, t = u ++ v ∧ (∀ x ∈ u, x ≠ B.slash) ∧ k v = true := by
  induction t with
  | nil => exact ⟨fun h => ⟨[], [], rfl, nofun, h⟩, by rintro ⟨_ | _, v, ⟨⟩, _, h⟩; exact h⟩
  | cons c t ih =>
    rw [loopSeg, Bool.or_eq_true, Bool.and_eq_true, bne_iff_ne, ih]
    constructor
    · rintro (h | ⟨hc, u, v, rfl, hu, h⟩)
      · exact ⟨[], _, rfl, nofun, h⟩
      · exact ⟨c :: u, v, rfl, List.forall_mem_cons.2 ⟨hc, hu⟩, h⟩
    · rintro ⟨_ | ⟨d, u⟩, v, ⟨⟩, hu, h⟩
      · exact .inl h
      · exact .inr ⟨(List.forall_mem_cons.1 hu).1, u, v, rfl, (List.forall_mem_cons.1 hu).2, h⟩

theorem loopDir_iff (k : Bytes → Bool) (ok : Bool) (t : Bytes) :
    loopDir k ok t = true ↔ (ok = true ∧ k t = true) ∨ ∃ u v, t = u ++ B.slash :: v ∧ k v = true := by
  induction t generalizing ok with
  | nil =>
    rw [loopDir, Bool.and_eq_true]
    exact ⟨.inl, by rintro (h | ⟨_ | _, v, ⟨⟩, _⟩); exact h⟩
  | cons c t ih =>
    rw [loopDir, Bool.or_eq_true, Bool.and_eq_true, ih, beq_iff_eq]
    constructor
    · rintro (h | ⟨rfl, h⟩ | ⟨u, v, rfl, h⟩)
      · exact .inl h
      · exact .inr ⟨[], t, rfl, h⟩
      · exact .inr ⟨c :: u, v, rfl, h⟩
    · rintro (h | ⟨_ | ⟨d, u⟩, v, ⟨⟩, h⟩)
      · exact .inl h
      · exact .inr (.inl ⟨rfl, h⟩)
      · exact .inr (.inr ⟨u, v, rfl, h⟩)

/-- Declarative meaning of a path glob (statement of C16 with `**/` = zero or more directories). The side conditions of
    `seg` and `run` say which reading a run of stars has: `*` followed by `*`, and `**` followed by `/`, are the longer forms. -/
inductive GlobSpec : Bytes → Bytes → Prop
  | nil : GlobSpec [] []
  | lit {c p t} : c ≠ B.star → c ≠ B.qm → GlobSpec p t → GlobSpec (c :: p) (c :: t)
  | one {d p t} : d ≠ B.slash → GlobSpec p t → GlobSpec (B.qm :: p) (d :: t)
  | seg {p u t} : p.head? ≠ some B.star → (∀ x ∈ u, x ≠ B.slash) → GlobSpec p t → GlobSpec (B.star :: p) (u ++ t)
  | run {p u t} : p.head? ≠ some B.slash → GlobSpec p t → GlobSpec (B.star :: B.star :: p) (u ++ t)
  | dir0 {p t} : GlobSpec p t → GlobSpec (B.star :: B.star :: B.slash :: p) t
  | dirs {p u t} : GlobSpec p t → GlobSpec (B.star :: B.star :: B.slash :: p) (u ++ B.slash :: t)

/-- every `true` of the matcher is justified, whatever the fuel -/
theorem globF_sound (f : Nat) (p t : Bytes) : globF f p t = true → GlobSpec p t := by
  -- strong induction although only the predecessor is used: `fun_cases` names the fuel of each branch anew, and the
  -- hypothesis of a plain induction would be about the old name
  induction f using Nat.strongRecOn generalizing p t with | _ f ih => ?_
  fun_cases globF f p t with
  | case1 => nofun
  | case2 => intro h; cases List.isEmpty_iff.1 h; exact .nil
  | case3 f c t hc c2 hc2 c3 p3 hc3 =>                   -- `**/…`
    rw [beq_iff_eq] at hc hc2 hc3; subst hc hc2 hc3
    rw [loopDir_iff]
    rintro (⟨_, hk⟩ | ⟨u, v, rfl, hk⟩)
    · exact .dir0 (ih _ f.lt_succ_self _ _ hk)
    · exact .dirs (ih _ f.lt_succ_self _ _ hk)
  | case4 f c t hc c2 hc2 c3 p3 hc3 =>                   -- `**x…`
    rw [beq_iff_eq] at hc hc2; subst hc hc2
    rw [loopAny_iff]
    rintro ⟨u, v, rfl, hk⟩
    exact .run (fun e => hc3 (beq_iff_eq.2 (Option.some.inj e))) (ih _ f.lt_succ_self _ _ hk)
  | case5 f c t hc c2 hc2 =>                             -- `**` at the end
    rw [beq_iff_eq] at hc hc2; subst hc hc2
    rw [loopAny_iff]
    rintro ⟨u, v, rfl, hk⟩
    exact .run nofun (ih _ f.lt_succ_self _ _ hk)
  | case6 f c t hc c2 p2 hc2 =>                          -- `*x…`
    rw [beq_iff_eq] at hc; subst hc
    rw [loopSeg_iff]
    rintro ⟨u, v, rfl, hu, hk⟩
    exact .seg (fun e => hc2 (beq_iff_eq.2 (Option.some.inj e))) hu (ih _ f.lt_succ_self _ _ hk)
  | case7 f c t hc =>                                    -- `*` at the end
    rw [beq_iff_eq] at hc; subst hc
    rw [loopSeg_iff]
    rintro ⟨u, v, rfl, hu, hk⟩
    exact .seg nofun hu (ih _ f.lt_succ_self _ _ hk)
  | case8 => nofun
  | case9 f c p hc hq d t =>                             -- `?…`
    rw [beq_iff_eq] at hq; subst hq
    rw [Bool.and_eq_true, bne_iff_ne]
    exact fun h => .one h.1 (ih _ f.lt_succ_self _ _ h.2)
  | case10 => nofun
  | case11 f c p hc hq d t =>                            -- a literal byte
    rw [Bool.and_eq_true, beq_iff_eq]
    rintro ⟨rfl, hk⟩
    exact .lit (mt beq_iff_eq.2 hc) (mt beq_iff_eq.2 hq) (ih _ f.lt_succ_self _ _ hk)

/-! One unfolding of `globF` where the branch taken depends on a hypothesis (at `?…` and `**/…`
    it is `rfl`). -/

theorem globF_lit {c : UInt8} (hc : c ≠ B.star) (hq : c ≠ B.qm) (f : Nat) (p : Bytes) (d : UInt8)
    (t : Bytes) : globF (f + 1) (c :: p) (d :: t) = (c == d && globF f p t) :=
  (if_neg (mt beq_iff_eq.1 hc)).trans (if_neg (mt beq_iff_eq.1 hq))

theorem globF_seg {p : Bytes} (hp : p.head? ≠ some B.star) (f : Nat) (t : Bytes) :
    globF (f + 1) (B.star :: p) t = loopSeg (globF f p) t :=
  match p with
  | [] => rfl
  | _ :: _ => if_neg fun e => hp (congrArg some (beq_iff_eq.1 e))

theorem globF_run {p : Bytes} (hp : p.head? ≠ some B.slash) (f : Nat) (t : Bytes) :
    globF (f + 1) (B.star :: B.star :: p) t = loopAny (globF f p) t :=
  match p with
  | [] => rfl
  | _ :: _ => if_neg fun e => hp (congrArg some (beq_iff_eq.1 e))

/-- with more fuel than the pattern is long, every match the meaning allows is found -/
theorem globF_complete (f : Nat) (p t : Bytes) (h : GlobSpec p t) (hf : p.length < f) :
    globF f p t = true := by
  induction f generalizing p t with
  | zero => cases hf
  | succ f ih =>
    cases h with
    | nil => rfl
    | lit hc hq h =>
      rw [globF_lit hc hq, ih _ _ h (Nat.lt_of_succ_lt_succ hf), beq_self_eq_true]; rfl
    | one hd h =>
      show (_ != B.slash && globF f _ _) = true
      rw [ih _ _ h (Nat.lt_of_succ_lt_succ hf), bne_iff_ne.2 hd]; rfl
    | seg hp hu h =>
      rw [globF_seg hp]
      exact (loopSeg_iff _ _).2 ⟨_, _, rfl, hu, ih _ _ h (Nat.lt_of_succ_lt_succ hf)⟩
    | run hp h =>
      rw [globF_run hp]
      exact (loopAny_iff _ _).2 ⟨_, _, rfl, ih _ _ h (Nat.lt_of_succ_lt (Nat.lt_of_succ_lt_succ hf))⟩
    | dir0 h =>
      exact (loopDir_iff _ _ _).2 (.inl ⟨rfl, ih _ _ h (Nat.lt_of_succ_lt (Nat.lt_of_succ_lt (Nat.lt_of_succ_lt_succ hf)))⟩)
    | dirs h =>
      exact (loopDir_iff _ _ _).2 (.inr ⟨_, _, rfl, ih _ _ h (Nat.lt_of_succ_lt (Nat.lt_of_succ_lt (Nat.lt_of_succ_lt_succ hf)))⟩)

theorem globF_iff {f : Nat} {p : Bytes} (t : Bytes) (hf : p.length < f) :
    globF f p t = true ↔ GlobSpec p t :=
  ⟨globF_sound f p t, fun h => globF_complete f p t h hf⟩

end Frrs
