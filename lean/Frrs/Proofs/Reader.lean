/-
  Frrs.Proofs.Reader — the two readers of the main loop: `read_until(b'\n')` (`readLine`) and `read_exact(n)`
  (`readExact`). Both split the input in two and never look behind it.
-/
import Frrs.Filter
namespace Frrs

theorem readExact_append (p rest : Bytes) : readExact p.length (p ++ rest) = some (p, rest) := by
  induction p with
  | nil => rfl
  | cons b p ih => simp [readExact, ih]

/-- `read_exact(n)` succeeds exactly when `n` bytes are there: it returns them and what follows, whatever they hold -/
theorem readExact_eq_some {n : Nat} {inp p rest : Bytes} :
    readExact n inp = some (p, rest) ↔ inp = p ++ rest ∧ p.length = n := by
  refine ⟨fun h => ?_, fun ⟨h1, h2⟩ => h1 ▸ h2 ▸ readExact_append p rest⟩
  induction n generalizing inp p with
  | zero => cases h; exact ⟨rfl, rfl⟩
  | succ n ih =>
    cases inp with
    | nil => cases h
    | cons b r =>
      rw [readExact] at h
      cases hr : readExact n r with
      | none => rw [hr] at h; cases h
      | some x =>
        rw [hr] at h; cases h
        obtain ⟨h1, h2⟩ := ih hr
        exact ⟨by rw [h1]; rfl, by simp [h2]⟩

theorem readExact_suffix {n : Nat} {inp p rest : Bytes} (h : readExact n inp = some (p, rest)) : rest <:+ inp :=
  ⟨p, (readExact_eq_some.mp h).1.symm⟩

theorem readLine_append (inp : Bytes) : (readLine inp).1 ++ (readLine inp).2 = inp := by
  fun_induction readLine inp with
  | case1 => rfl
  | case2 => rfl
  | case3 b r _ l rest h ih => rw [h] at ih; exact congrArg (b :: ·) ih

theorem readLine_suffix {inp l rest : Bytes} (h : readLine inp = (l, rest)) : rest <:+ inp :=
  ⟨l, by simpa [h] using readLine_append inp⟩

/-- a line that was read took at least one byte -/
theorem readLine_lt {inp : Bytes} (h : ¬ (readLine inp).1.isEmpty = true) : (readLine inp).2.length < inp.length := by
  have := congrArg List.length (readLine_append inp)
  cases hl : (readLine inp).1 with
  | nil => simp [hl] at h
  | cons b t => simp [hl] at this; omega

/-- up to the first line feed -/
theorem readLine_line (l rest : Bytes) (h : ∀ b ∈ l, b ≠ B.lf) : readLine (l ++ B.lf :: rest) = (l ++ [B.lf], rest) := by
  induction l with
  | nil => rfl
  | cons a l ih =>
    have ha : (a == B.lf) = false := decide_eq_false (h a (.head _))
    simp [readLine, ha, ih fun b hb => h b (.tail _ hb)]

end Frrs
