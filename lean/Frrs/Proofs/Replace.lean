/-
  Frrs.Proofs.Replace — the literal replacement engine (`replaceAll`, Frrs/Replace.lean) against its meaning `Repl`:
  replace the first occurrence, go on in what follows it. The engine computes it (`replAux_spec`) and nothing else
  (`Repl.unique`).
-/
import Frrs.Replace
import Frrs.Proofs.Bytes
namespace Frrs

theorem replaceAll_eq (h r : Bytes) {n : Bytes} (hn : n ≠ []) :
    replaceAll h n r = replAux n r 0 h :=
  if_neg (mt List.isEmpty_iff.1 hn)

/-- stepping over the rest of a matched window -/
theorem replAux_skip (n r : Bytes) (u t : Bytes) :
    replAux n r u.length (u ++ t) = replAux n r 0 t := by
  induction u with
  | nil => rfl
  | cons a u ih => exact ih

theorem replAux_nil (n r : Bytes) (k : Nat) : replAux n r k [] = [] := by
  cases k <;> rfl

/-- a window that matches is replaced and the scan resumes after it -/
theorem replAux_match (n r t : Bytes) (hn : n ≠ []) :
    replAux n r 0 (n ++ t) = r ++ replAux n r 0 t := by
  cases n with
  | nil => exact absurd rfl hn
  | cons b n' =>
    rw [← replAux_skip (b :: n') r n' t]
    exact if_pos (startsWith_append_self (b :: n') t)

theorem replAux_nomatch (n r : Bytes) (b : UInt8) (t : Bytes) (h : startsWith (b :: t) n = false) :
    replAux n r 0 (b :: t) = b :: replAux n r 0 t :=
  if_neg (by rw [h]; nofun)

/-- no occurrence of `n` starts inside `pre` (reading `pre ++ rest`) -/
def FirstAt (n pre rest : Bytes) : Prop :=
  ∀ p1 p2, pre = p1 ++ p2 → p2 ≠ [] → startsWith (p2 ++ rest) n = false

/-- the declarative meaning: replace the *first* occurrence, then continue in what follows it -/
inductive Repl (n r : Bytes) : Bytes → Bytes → Prop
  | done {h} : ¬ Occurs n h → Repl n r h h
  | step {pre post out} : FirstAt n pre (n ++ post) → Repl n r post out →
      Repl n r (pre ++ n ++ post) (pre ++ r ++ out)

theorem FirstAt.nil (n rest : Bytes) : FirstAt n [] rest :=
  fun _ _ e hne => absurd (List.append_eq_nil_iff.1 e.symm).2 hne

theorem FirstAt.cons {n pre rest : Bytes} {b : UInt8} (h : FirstAt n pre rest)
    (hb : startsWith (b :: (pre ++ rest)) n = false) : FirstAt n (b :: pre) rest := by
  intro p1 p2 e hne
  cases p1 with
  | nil => cases e; exact hb
  | cons a p1 => exact h p1 p2 (List.cons.inj e).2 hne

theorem FirstAt.of_not_occurs {n h : Bytes} (hno : ¬ Occurs n h) : FirstAt n h [] := by
  intro p1 p2 e _
  refine Bool.eq_false_iff.2 fun hs => ?_
  obtain ⟨t, et⟩ := startsWith_iff.1 hs
  exact hno ⟨p1, t, by rw [e, ← List.append_nil p2, et, List.append_assoc]⟩

/-- the scan copies everything before the first occurrence -/
theorem replAux_firstAt (n r : Bytes) {pre rest : Bytes} (h : FirstAt n pre rest) :
    replAux n r 0 (pre ++ rest) = pre ++ replAux n r 0 rest := by
  induction pre with
  | nil => rfl
  | cons a pre ih =>
    rw [List.cons_append, replAux_nomatch n r a (pre ++ rest) (h [] (a :: pre) rfl nofun),
      ih fun p1 p2 e => h (a :: p1) p2 (congrArg _ e), List.cons_append]

theorem Repl.cons {n r t out : Bytes} {b : UInt8} (h : Repl n r t out)
    (hb : startsWith (b :: t) n = false) : Repl n r (b :: t) (b :: out) := by
  cases h with
  | done hno =>
    exact .done fun ho => (occurs_cons ho).elim (fun h1 => by rw [hb] at h1; cases h1) hno
  | @step pre post out' hf hr =>
    exact .step (pre := b :: pre) (hf.cons (by rwa [List.append_assoc] at hb)) hr

/-- what the scan computes once `k` more bytes have been stepped over -/
theorem replAux_spec (n r : Bytes) (hn : n ≠ []) (k : Nat) (h : Bytes) :
    Repl n r (h.drop k) (replAux n r k h) := by
  fun_induction replAux n r k h with
  | case1 k => rw [List.drop_nil]; exact .done (not_occurs_nil hn)
  | case2 k b t ih => exact ih
  | case3 b t hs ih =>
    obtain ⟨post, e⟩ := startsWith_iff.1 hs
    cases n with
    | nil => exact absurd rfl hn
    | cons a n' =>
      obtain ⟨rfl, rfl⟩ := List.cons.inj (List.cons_append ▸ e)
      rw [List.length_cons, Nat.add_sub_cancel, List.drop_left] at ih
      exact .step (pre := []) (.nil _ _) ih
  | case4 b t hs ih => exact ih.cons (Bool.eq_false_iff.2 hs)

/-- the spec determines the output: anything the declarative meaning allows is what is computed -/
theorem Repl.unique {n r h out : Bytes} (hn : n ≠ []) (hr : Repl n r h out) :
    replAux n r 0 h = out := by
  induction hr with
  | @done h hno => simpa [replAux_nil] using replAux_firstAt n r (.of_not_occurs hno)
  | @step pre post out hf _ ih =>
    rw [List.append_assoc, replAux_firstAt n r hf, replAux_match n r post hn, ih, List.append_assoc]

end Frrs
