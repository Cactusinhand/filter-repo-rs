/-
  Frrs.Proofs.Pipes — what the exporter's and the importer's command lines guarantee, for every option set
  (and, through `Cli.parseArgs`, for every command line).
-/
import Frrs.Pipes
import Frrs.Proofs.Cli
namespace Frrs.Pipes
open Frrs.Cli

/-- the nine parts of the exporter's command line, in order, when nothing overrides the exporter -/
theorem exportCmd_eq_some (c : Caps) (o : CliOpts) (args : List Bytes) (h : exportCmd c o = some args)
    (hov : o.feOverride = none) :
    ∃ re mt, reencodePart c o = some re ∧ markTagsPart c o = some mt ∧
      args = [b!"git", b!"-C", o.source] ++ (if o.quotepath then [b!"-c", b!"core.quotepath=false"] else []) ++
        [b!"fast-export"] ++ o.refs ++ fixedExportFlags ++ (if o.dateOrder then [b!"--date-order"] else []) ++
        (if o.noData || autoNoData o then [b!"--no-data"] else []) ++ re ++ mt := by
  revert h
  fun_cases exportCmd c o
  case case1 hp _ | case2 hp _ => cases hov.symm.trans hp
  case case3 re mt hmt hre => rintro ⟨⟩; exact ⟨re, mt, hre, hmt, rfl⟩
  case case4 => nofun

/-- what is on every command line that starts the exporter (`feOverride = none`: `--fe_stream_override` puts `cat` in its
    place): the ref selection as given, the fixed flags — `--use-done-feature` (C10: a stream
    that ends early is recognisable), `--show-original-ids` (C09), `--reference-excluded-parents` (C02/C03) among them — and
    `core.quotepath=false` unless it was switched off -/
theorem exportCmd_has (c : Caps) (o : CliOpts) (args : List Bytes) (h : exportCmd c o = some args)
    (hov : o.feOverride = none) :
    (∀ x, x ∈ o.refs ∨ x ∈ fixedExportFlags → x ∈ args) ∧ (o.quotepath = true → b!"core.quotepath=false" ∈ args) := by
  obtain ⟨re, mt, _, _, rfl⟩ := exportCmd_eq_some c o args h hov
  simp only [List.mem_append]
  -- the parts associate to the left: the refs are the fourth of nine, the fixed flags the fifth, the quotepath part the second
  refine ⟨fun x hx => ?_, fun hq => ?_⟩
  · rcases hx with hx | hx
    · exact .inl (.inl (.inl (.inl (.inl (.inr hx)))))
    · exact .inl (.inl (.inl (.inl (.inr hx))))
  · exact .inl (.inl (.inl (.inl (.inl (.inl (.inl (.inr (by rw [if_pos hq]; decide))))))))

theorem reencodePart_no_nodata (c : Caps) (o : CliOpts) (re : List Bytes) (h : reencodePart c o = some re) :
    b!"--no-data" ∉ re := by
  revert h
  fun_cases reencodePart c o <;> intro h <;> cases h <;> decide

theorem markTagsPart_no_nodata (c : Caps) (o : CliOpts) (mt : List Bytes) (h : markTagsPart c o = some mt) :
    b!"--no-data" ∉ mt := by
  revert h
  fun_cases markTagsPart c o <;> intro h <;> cases h <;> decide

/-- the exporter's command line does not depend on `--force`, the clean-up mode (nor on `--dry-run`, `--backup`, `--sensitive`,
    `--partial` or any selector: `exportCmd` reads none of these fields) -/
theorem export_ignores_cleanup_and_force (c : Caps) (o : CliOpts) (cl : Cleanup) (f : Bool) :
    exportCmd c { o with cleanup := cl, force := f } = exportCmd c o := rfl

/-- spellings of one directory are one repository (`.` and `./`, `repo` and `repo/`): evaluated by the kernel -/
example : samePath b!"." b!"./" = true ∧ samePath b!"repo" b!"repo/" = true ∧ samePath b!"a/./b" b!"a//b" = true ∧
    samePath b!"./a" b!"a" = false ∧ samePath b!"/a" b!"a" = false ∧ samePath b!"repo" b!"other" = false := by decide +kernel

/-- **the importer never folds case**: `-c core.ignorecase=false` stands before `fast-import` for every option set —
    source, target, platform and configuration play no part (C08, C01, C15) -/
theorem importer_never_folds_case (c : Caps) (o : CliOpts) :
    ∃ rest, importCmd c o = [b!"git", b!"-C", o.target, b!"-c", b!"core.ignorecase=false", b!"fast-import"] ++ rest := by
  unfold importCmd
  exact ⟨[b!"--force", b!"--quiet"] ++ (if c.anonymizeMap then [b!"--date-format=raw-permissive"] else []), rfl⟩

/-! ### composed with the command line -/

/-- for every accepted command line: a dry run and a real run with the same words otherwise start the same exporter -/
theorem preview_exports_like_the_real_run (c : Caps) (bad argv : List Bytes) (o : CliOpts)
    (_h : parseArgs bad argv = .ok o) : exportCmd c { o with dryRun := !o.dryRun } = exportCmd c o := rfl

example : ((okOf (parseArgs [] [b!"--replace-text", b!"r", b!"--max-blob-size", b!"10"])).bind (exportCmd {})).map
    (fun a => a.contains b!"--no-data") = some false := by decide +kernel
example : ((okOf (parseArgs [] [b!"--max-blob-size", b!"10"])).bind (exportCmd {})).map
    (fun a => a.contains b!"--no-data") = some true := by decide +kernel
example : ((okOf (parseArgs [] [b!"--max-blob-size", b!"10", b!"--target", b!"../other"])).bind (exportCmd {})).map
    (fun a => a.contains b!"--no-data") = some false := by decide +kernel

/-! ### the whole way: command line → options → validation → exporter -/

/-- lib.rs `run`: the filter is reached by option sets that ask for neither scan mode and pass `validate_options` -/
theorem dispatch_eq_filter {o : CliOpts} :
    dispatch o = .filter ↔ o.detectSecrets = false ∧ o.analyze = false ∧ validCli o = true := by
  unfold dispatch
  cases o.detectSecrets <;> cases o.analyze <;> cases validCli o <;> decide

theorem validCli_no_data_excludes_rules (o : CliOpts) (h : validCli o = true) (hr : o.replaceText.isSome = true) :
    o.noData = false := by
  unfold validCli at h
  simp only [Bool.and_eq_true, Bool.not_eq_true', Bool.and_eq_false_iff] at h
  obtain ⟨⟨⟨⟨_, _⟩, h3⟩, _⟩, _⟩ := h
  rcases h3 with h3 | h3
  · exact h3
  · rw [hr] at h3; cases h3

example : ((okOf (parseArgs [] [b!"--no-data", b!"--replace-text", b!"r"])).map dispatch) = some Dispatch.refused := by decide +kernel
example : ((okOf (parseArgs [] [b!"--replace-text", b!"r", b!"--max-blob-size", b!"0"])).map dispatch) = some Dispatch.refused := by decide +kernel
example : ((okOf (parseArgs [] [b!"--replace-text", b!"r", b!"--analyze"])).map dispatch) = some Dispatch.analyze := by decide +kernel
example : ((okOf (parseArgs [] [b!"--replace-text", b!"r", b!"--path", b!"src"])).map dispatch) = some Dispatch.filter := by decide +kernel

end Frrs.Pipes
