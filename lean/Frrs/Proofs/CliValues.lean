/-
  Frrs.Proofs.CliValues — the number readers of the command-line values (`parse::<u64>`, `parse_max_blob_size`) on digit
  strings: what a digit string means, alone and with a size suffix.
-/
import Frrs.CliValues
import Frrs.Proofs.Decimal
import Frrs.Proofs.ByteClass
namespace Frrs

theorem stripUnderscores_digits (ds : Bytes) (h : ∀ b ∈ ds, isDigit b = true) : stripUnderscores ds = ds :=
  List.filter_eq_self.mpr fun b hb => by rw [bne, beq_false_of_class (h b hb) (by decide)]; rfl

theorem parseU64_digits (ds : Bytes) (hne : ds ≠ []) (h : ∀ b ∈ ds, isDigit b = true) (hv : decVal 0 ds ≤ u64Max) :
    parseU64 ds = some (decVal 0 ds) := by
  cases ds with
  | nil => exact absurd rfl hne
  | cons c r =>
    simp [parseU64, digit_ne_plus (h c (by simp)), allDigits_of h, Nat.not_lt.mpr hv]

/-- a digit is below the letters: no letter, and `upperA` leaves it alone -/
theorem digit_not_alpha {b : UInt8} (h : isDigit b = true) : upperA b = b ∧ isAlpha b = false := by
  have h9 : b ≤ 0x39 := by simp only [isDigit, Bool.and_eq_true, decide_eq_true_eq] at h; exact h.2
  have lo : ∀ c : UInt8, 0x39 < c → decide (c ≤ b) = false := fun c hc =>
    decide_eq_false fun h2 => absurd (UInt8.lt_of_lt_of_le hc (UInt8.le_trans h2 h9)) (UInt8.lt_irrefl _)
  simp [upperA, isAlpha, lo 0x41 (by decide), lo 0x61 (by decide)]

/-- a digit string is a size in bytes -/
theorem parseMaxBlobSize_digits (ds : Bytes) (hne : ds ≠ []) (hd : ∀ b ∈ ds, isDigit b = true) (hv : decVal 0 ds ≤ u64Max) :
    parseMaxBlobSize ds = some (decVal 0 ds) := by
  obtain ⟨l, hl⟩ : ∃ l, ds.getLast? = some l := Option.isSome_iff_exists.mp (by simpa using hne)
  have hld := hd l (List.mem_of_getLast? hl)
  have n := fun c hc => beq_false_of_class (c := c) hld hc
  simp only [parseMaxBlobSize, hl, (digit_not_alpha hld).1, (digit_not_alpha hld).2, n 0x4b rfl, n 0x4d rfl, n 0x47 rfl,
    Bool.false_eq_true, if_false, List.isEmpty_eq_false_iff.mpr hne, stripUnderscores_digits ds hd,
    parseU64_digits ds hne hd hv, Nat.mul_one, if_neg (Nat.not_lt.mpr hv)]

/-- a digit string with a size suffix: `K`, `M`, `G` in either case are powers of 1024 -/
theorem parseMaxBlobSize_suffix (ds : Bytes) (sfx : UInt8) (mult : Nat) (hne : ds ≠ []) (hd : ∀ b ∈ ds, isDigit b = true)
    (hs : (sfx, mult) ∈ [((0x4b : UInt8), 1024), (0x6b, 1024), (0x4d, 1024 * 1024), (0x6d, 1024 * 1024),
                          (0x47, 1024 * 1024 * 1024), (0x67, 1024 * 1024 * 1024)])
    (hv : decVal 0 ds * mult ≤ u64Max) : parseMaxBlobSize (ds ++ [sfx]) = some (decVal 0 ds * mult) := by
  simp only [List.mem_cons, Prod.mk.injEq, List.mem_nil_iff, or_false] at hs
  have hmult : 0 < mult := by omega            -- each multiplier of the table is a power of 1024
  have hp := parseU64_digits ds hne hd (Nat.le_trans (Nat.le_mul_of_pos_right _ hmult) hv)
  rcases hs with ⟨rfl, rfl⟩ | ⟨rfl, rfl⟩ | ⟨rfl, rfl⟩ | ⟨rfl, rfl⟩ | ⟨rfl, rfl⟩ | ⟨rfl, rfl⟩ <;>
    simp (config := {decide := true}) only [parseMaxBlobSize, List.getLast?_concat, ↓reduceIte, List.dropLast_concat,
      List.isEmpty_eq_false_iff.mpr hne, stripUnderscores_digits ds hd, hp, if_neg (Nat.not_lt.mpr hv)]

end Frrs
