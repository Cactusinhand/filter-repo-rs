/-
  Frrs.Proofs.CliPath — what `normalizeCliPath` accepts, in terms of the input bytes (`normalizeCliPath_ok`).
-/
import Frrs.CliPath
namespace Frrs

theorem bs2slash_eq_slash (b : UInt8) : bs2slash b = B.slash ↔ b = B.slash ∨ b = B.bs := by
  by_cases h : b = B.bs
  · subst h; decide
  · rw [bs2slash, if_neg (mt beq_iff_eq.1 h)]
    exact ⟨.inl, fun h' => h'.resolve_right h⟩

theorem bs2slash_ne_bs (b : UInt8) : bs2slash b ≠ B.bs := by
  by_cases h : b = B.bs
  · subst h; decide
  · rwa [bs2slash, if_neg (mt beq_iff_eq.1 h)]

theorem head?_map_bs2slash (s : Bytes) :
    (s.map bs2slash).head? = some B.slash ↔ s.head? = some B.slash ∨ s.head? = some B.bs := by
  cases s with
  | nil => simp
  | cons b r => simp [bs2slash_eq_slash]

theorem head?_of_absPrefix {s : Bytes} (h : absPrefix s = true) :
    s.head? = some B.slash ∨ s.head? = some B.bs := by
  cases s with
  | nil => cases h
  | cons b r =>
    simp only [absPrefix, startsWith, Bool.or_eq_true, Bool.and_eq_true, beq_iff_eq] at h
    rcases h with (⟨rfl, _⟩ | ⟨rfl, _⟩) | ⟨rfl, _⟩
    · exact .inl rfl
    · exact .inr rfl
    · exact .inl rfl

/-- The five tests of the normaliser, on the input bytes. The `absPrefix` test adds nothing to the
    test on the first output byte (it only selects the error message), so the two appear as "the
    first byte is neither '/' nor '\'"; the empty input passes the last four trivially. -/
structure CliPathOk (ae : Bool) (s : Bytes) : Prop where
  empty : s = [] → ae = true
  drive : driveLetter s = false
  slash : s.head? ≠ some B.slash
  bs : s.head? ≠ some B.bs
  dots : ∀ seg ∈ splitOn B.slash (s.map bs2slash), isDotSeg seg = false

/-- the normaliser succeeds exactly on the inputs that pass, and then only reads every backslash
    as '/' -/
theorem normalizeCliPath_ok (ae : Bool) (s out : Bytes) :
    normalizeCliPath ae s = .ok out ↔ out = s.map bs2slash ∧ CliPathOk ae s := by
  fun_cases normalizeCliPath ae s with
  | case1 hs hae =>
    cases List.isEmpty_iff.1 hs
    exact ⟨fun h => ⟨(Except.ok.inj h).symm, fun _ => hae, rfl, nofun, nofun, by decide⟩,
      fun h => congrArg _ h.1.symm⟩
  | case2 hs hae => exact iff_of_false nofun fun h => hae (h.2.empty (List.isEmpty_iff.1 hs))
  | case3 _ hd => exact iff_of_false nofun fun h => by rw [h.2.drive] at hd; cases hd
  | case4 _ _ ha => exact iff_of_false nofun fun h => (head?_of_absPrefix ha).elim h.2.slash h.2.bs
  | case5 _ _ _ o ho =>
    exact iff_of_false nofun fun h =>
      ((head?_map_bs2slash s).1 (beq_iff_eq.1 ho)).elim h.2.slash h.2.bs
  | case6 _ _ _ o _ hany =>
    obtain ⟨seg, hseg, hdot⟩ := List.any_eq_true.1 hany
    exact iff_of_false nofun fun h => by rw [h.2.dots seg hseg] at hdot; cases hdot
  | case7 hs hd _ o ho hany =>
    have hh := mt (head?_map_bs2slash s).2 (mt beq_iff_eq.2 ho)
    exact ⟨fun h => ⟨(Except.ok.inj h).symm, fun e => absurd (e ▸ rfl) hs, Bool.eq_false_iff.2 hd,
        fun e => hh (.inl e), fun e => hh (.inr e),
        fun seg hseg => Bool.eq_false_iff.2 fun hdot => hany (List.any_eq_true.2 ⟨seg, hseg, hdot⟩)⟩,
      fun h => congrArg _ h.1.symm⟩

end Frrs
