-- Root of the `Frrs` library: the model, the simulation, the shared proofs, the property theorems.
import Frrs.Bytes
import Frrs.Wire
import Frrs.PathCodec
import Frrs.Glob
import Frrs.CliPath
import Frrs.FileChange
import Frrs.Replace
import Frrs.Utf8
import Frrs.Identity
import Frrs.Commit
import Frrs.Filter
import Frrs.Import
import Frrs.Oracle
import Frrs.Finalize
import Frrs.Sanity
import Frrs.Analyze
import Frrs.Detect
import Frrs.ShortHash
import Frrs.CliValues
import Frrs.Validate
import Frrs.Migrate
import Frrs.Backup
import Frrs.Cli
import Frrs.Pipes
import Frrs.Pipeline
import Frrs.PipeModel
import Frrs.Extracted
import Frrs.Ops
import Frrs.Sim.Sim
import Frrs.Sim.Tree
import Frrs.Proofs.Bridge
import Frrs.Proofs.ByteClass
import Frrs.Proofs.Bytes
import Frrs.Proofs.Cli
import Frrs.Proofs.CliPath
import Frrs.Proofs.CliValues
import Frrs.Proofs.Codec
import Frrs.Proofs.Compat
import Frrs.Proofs.DataHeader
import Frrs.Proofs.Decimal
import Frrs.Proofs.Duration
import Frrs.Proofs.FileChange
import Frrs.Proofs.Glob
import Frrs.Proofs.Loop
import Frrs.Proofs.MapRoundTrip
import Frrs.Proofs.OldNames
import Frrs.Proofs.Order
import Frrs.Proofs.PipeModel
import Frrs.Proofs.Pipes
import Frrs.Proofs.Reader
import Frrs.Proofs.Replace
import Frrs.Proofs.ShortHash
import Frrs.Proofs.Stanza
import Frrs.Props.C01
import Frrs.Props.C02
import Frrs.Props.C03
import Frrs.Props.C04
import Frrs.Props.C05
import Frrs.Props.C06
import Frrs.Props.C07
import Frrs.Props.C08
import Frrs.Props.C09
import Frrs.Props.C10
import Frrs.Props.C11
import Frrs.Props.C12
import Frrs.Props.C13
import Frrs.Props.C14
import Frrs.Props.C15
import Frrs.Props.C16
import Frrs.Props.C17
import Frrs.Props.C18
import Frrs.Props.C19
import Frrs.Props.C20
